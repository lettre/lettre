-- Root of the `LettreVerif` library: the property theorems, which import the models, specifications and proofs they rest on.
import LettreVerif.Props.C01
import LettreVerif.Props.C02
import LettreVerif.Props.C03
import LettreVerif.Props.C04
import LettreVerif.Props.C05
import LettreVerif.Props.C06
import LettreVerif.Props.C07
import LettreVerif.Props.C08
import LettreVerif.Props.C09
import LettreVerif.Props.C10
import LettreVerif.Props.C11
import LettreVerif.Props.C12
import LettreVerif.Props.C13
import LettreVerif.Props.C14
import LettreVerif.Props.C15
import LettreVerif.Props.C16
import LettreVerif.Props.C17
import LettreVerif.Props.C18
import LettreVerif.Props.C19
import LettreVerif.Props.C20
