import LettreVerif.Model.Bytes
/-!
# M: the connection pools as a transition system over their critical sections

src/transport/smtp/pool/{sync_impl,async_impl}.rs.  One transition = one acquisition of the
pool's lock by one thread (or task) together with the lock-free work that thread does before it
next needs the lock: a NOOP probe, a connect, the transaction, QUIT.  That work touches only
connections the thread owns at that moment (which is the invariant `Excl` of `Proofs/PoolLts.lean`,
proved in `Proofs/PoolHealthy.lean`), so interleaving it with other threads' work changes nothing
observable; the schedule controller of the harness forces exactly these transitions on the
real pools.

The peer is part of the state: every connection carries the peer's plan for it (`Plan`) and the
history the peer has seen on it.
-/
namespace LV.PoolLts

/-- what the peer sees on one connection -/
inductive SEv
  | ehlo | noop | mail (sender : Nat) | rcpt | rcptRej | rcptTemp | data | dataTemp | commit (sender msg : Nat)
  | quit | eof | kill
deriving DecidableEq, Repr

/-- the peer's plan for one connection: silently close after that many accepted messages (0 = right after EHLO);
    refuse the recipient of that transaction with 550 / with 450; answer that NOOP with `421` and close; answer that
    NOOP only after the client's read timeout has passed -/
structure Plan where
  dropAfter : Option Nat := none
  rejectRcpt : Option Nat := none
  tempRcpt : Option Nat := none
  /-- answer the DATA command of that transaction with 451 -/
  tempData : Option Nat := none
  noop421 : Option Nat := none
  slowNoop : Option Nat := none
deriving DecidableEq, Repr

structure Conn where
  dropAfter : Option Nat := none
  rejectRcpt : Option Nat := none
  tempRcpt : Option Nat := none
  /-- answer the DATA command of that transaction with 451 -/
  tempData : Option Nat := none
  noop421 : Option Nat := none
  slowNoop : Option Nat := none
  noops : Nat := 0
  peerAlive : Bool := true      -- the peer has not closed it
  closed : Bool := false        -- the client has closed it
  broken : Bool := false        -- `panic`: set by abort(); never parked again
  commits : Nat := 0
  txns : Nat := 0
  hist : List SEv := []         -- most recent first
deriving DecidableEq, Repr

inductive Res | ok | perm | trans | err | shutdown
deriving DecidableEq, Repr

/-- a sender: which of its sends is next, whether it holds a connection waiting to return it -/
structure Sender where
  next : Nat := 0
  holding : Option Nat := none
  results : List Res := []      -- most recent first
deriving DecidableEq, Repr

inductive MPc
  | scan                                          -- about to take the lock for the scan
  | push (c : Nat) (more : Nat) (dropped : List Nat)   -- holds fresh `c`, `more` still to create
  | asleep
  | exited
deriving DecidableEq, Repr

structure St where
  isAsync : Bool
  maxSize : Nat
  minIdle : Nat
  sends : Nat                              -- sends per sender
  idle : Option (List (Nat × Bool))        -- parked (connection, expired), most recent first; none = shut down
  conns : List Conn                        -- every connection ever opened, by order of opening
  plans : List Plan                        -- the peer's plan for the connections still to come
  senders : List Sender
  recyclers : List (Option Nat)            -- async: pending returns, in order of creation
  maint : MPc
deriving Repr

inductive Ev
  | connectionLock (s : Nat)
  | recycleLock (who : Nat)       -- sync: sender index; async: recycler index
  | maintScan
  | maintPush
  | shutdownLock
  | wait                          -- the idle timeout passes for everything parked
deriving DecidableEq, Repr

def updConn (s : St) (c : Nat) (f : Conn → Conn) : St :=
  { s with conns := s.conns.modify c f }

def getConn (s : St) (c : Nat) : Conn := s.conns.getD c {}

def updSender (s : St) (i : Nat) (f : Sender → Sender) : St :=
  { s with senders := s.senders.modify i f }

def say (k : Conn) (e : SEv) : Conn := { k with hist := e :: k.hist }

/-- `abort()`: QUIT once if not already broken (the peer sees it if it is still there), close -/
def abortConn (k : Conn) : Conn :=
  if k.closed then k else
  let k1 := if !k.broken && k.peerAlive then say k .quit else k
  let k2 := if k1.peerAlive then say k1 .eof else k1
  { k2 with broken := true, closed := true }

/-- the socket is dropped without QUIT (a connection the maintenance worker held when it found
    the pool shut down) -/
def dropConn (k : Conn) : Conn :=
  if k.closed then k else
  let k1 := if k.peerAlive then say k .eof else k
  { k1 with broken := true, closed := true }

/-- a new connection: greeting + EHLO; the peer may close right away (`dropAfter = 0`) -/
def openConn (s : St) : St × Nat :=
  let pl := s.plans.headD {}
  let k : Conn := { dropAfter := pl.dropAfter, rejectRcpt := pl.rejectRcpt, tempRcpt := pl.tempRcpt, tempData := pl.tempData, noop421 := pl.noop421,
                    slowNoop := pl.slowNoop, hist := [.ehlo] }
  let k := if pl.dropAfter == some 0 then { say k .kill with peerAlive := false } else k
  ({ s with conns := s.conns ++ [k], plans := s.plans.tail }, s.conns.length)

/-- NOOP probe: the connection and whether it answered in time with a positive reply -/
def probe (k : Conn) : Conn × Bool :=
  if !k.peerAlive then (k, false) else
  let k := { say k .noop with noops := k.noops + 1 }
  if k.noop421 == some k.noops then ({ say k .kill with peerAlive := false }, false)
  else if k.slowNoop == some k.noops then (k, false)
  else (k, true)

/-- one transaction of sender `i`, message `m` on `k`: the connection afterwards and the result -/
def transact (k : Conn) (i m : Nat) : Conn × Res :=
  if !k.peerAlive then (abortConn k, .err) else
  let k := { say k (.mail i) with txns := k.txns + 1 }
  if k.rejectRcpt == some k.txns then (abortConn (say k .rcptRej), .perm) else
  if k.tempRcpt == some k.txns then (abortConn (say k .rcptTemp), .trans) else
  if k.tempData == some k.txns then (abortConn (say (say k .rcpt) .dataTemp), .trans) else
  let k := say (say (say k .rcpt) .data) (.commit i m)
  let k := { k with commits := k.commits + 1 }
  if k.dropAfter == some k.commits then ({ say k .kill with peerAlive := false }, .ok) else (k, .ok)

/-- after `send_raw` got its result on connection `c`: the connection goes back (sync: the
    sender itself waits for the lock unless the connection is broken; async: a recycle task is
    spawned) and the sender moves to its next message -/
def finishSend (s : St) (i c : Nat) (r : Res) : St :=
  let brk := (getConn s c).broken
  if s.isAsync then
    let s := { s with recyclers := s.recyclers ++ [if brk then none else some c] }
    updSender s i fun t => { t with next := t.next + 1, results := r :: t.results }
  else if brk then
    updSender s i fun t => { t with next := t.next + 1, results := r :: t.results }
  else
    updSender s i fun t => { t with holding := some c, results := r :: t.results }

def sendOn (s : St) (i c : Nat) : St :=
  let m := (s.senders.getD i {}).next
  let (k, r) := transact (getConn s c) i m
  finishSend (updConn s c fun _ => k) i c r

/-- nothing parked: connect, then the transaction -/
def connectFresh (s : St) (i : Nat) : St := sendOn (openConn s).1 i (openConn s).2

/-- `c` was popped (the rest stays parked): probe it; the transaction if it answers, else it is
    closed and the thread is back at the top of the loop -/
def usePopped (s : St) (i c : Nat) (rest : List (Nat × Bool)) : St :=
  let s1 := { s with idle := some rest }
  if (probe (getConn s1 c)).2 then sendOn (updConn s1 c fun _ => (probe (getConn s1 c)).1) i c
  else updConn s1 c fun _ => abortConn (probe (getConn s1 c)).1

/-- `Pool::connection` from the lock to the next point where the thread needs the lock -/
def connectionLock (s : St) (i : Nat) : Option St :=
  match s.senders[i]? with
  | none => none
  | some t =>
    if t.holding.isSome || t.next ≥ s.sends then none else
    match s.idle with
    | none => some (updSender s i fun t => { t with next := t.next + 1, results := .shutdown :: t.results })
    | some [] => some (connectFresh s i)
    | some ((c, _) :: rest) => some (usePopped s i c rest)

/-- `Pool::recycle` once it has the lock -/
def recycleConn (s : St) (c : Nat) : St :=
  match s.idle with
  | none => updConn s c abortConn
  | some l =>
    if l.length ≥ s.maxSize then updConn s c abortConn
    else { s with idle := some ((c, false) :: l) }

def recycleLock (s : St) (who : Nat) : Option St :=
  if s.isAsync then
    match s.recyclers[who]? with
    | some (some c) => some (recycleConn { s with recyclers := s.recyclers.set who none } c)
    | _ => none
  else
    match s.senders[who]? with
    | none => none
    | some t =>
      match t.holding with
      | none => none
      | some c =>
        some (recycleConn (updSender s who fun t => { t with holding := none, next := t.next + 1 }) c)

/-- the maintenance worker goes on creating connections or finishes its pass -/
def maintContinue (s : St) (more : Nat) (dropped : List Nat) : St :=
  match more with
  | 0 => { dropped.foldl (fun s c => updConn s c abortConn) s with maint := .asleep }
  | more + 1 => { (openConn s).1 with maint := .push (openConn s).2 more dropped }

def maintScan (s : St) : Option St :=
  if s.maint != .scan && s.maint != .asleep then none else
  match s.idle with
  | none => some { s with maint := .exited }
  | some l =>
    let dropped := (l.filter (·.2)).map (·.1)
    let keep := l.filter (!·.2)
    let s := { s with idle := some keep }
    some (maintContinue s (s.minIdle - keep.length) dropped)

/-- `cap` = the repaired behaviour: the worker re-checks `max_size` before it parks -/
def maintPush (cap : Bool) (s : St) : Option St :=
  match s.maint with
  | .push c more dropped =>
    match s.idle with
    | none =>
      -- `return`: the fresh connection and the expired ones are dropped as they are
      some { (c :: dropped).foldl (fun s c => updConn s c dropConn) s with maint := .exited }
    | some l =>
      if cap && l.length ≥ s.maxSize then
        some (maintContinue (updConn s c abortConn) 0 dropped)
      else
        some (maintContinue { s with idle := some ((c, false) :: l) } more dropped)
  | _ => none

def shutdownLock (s : St) : St :=
  match s.idle with
  | none => s
  | some l =>
    let s := l.foldl (fun s p => updConn s p.1 abortConn) { s with idle := none }
    -- the worker is woken up (sync) / aborted (tokio) if it sleeps
    { s with maint := if s.maint == .asleep then .exited else s.maint }

/-- more than the idle timeout passes: everything parked is expired, a sleeping worker is back
    at the lock -/
def waitEv (s : St) : St :=
  { s with idle := s.idle.map (·.map fun p => (p.1, true)),
           maint := if s.maint == .asleep then .scan else s.maint }

def capFix : Bool := true

def step (s : St) : Ev → Option St
  | .connectionLock i => connectionLock s i
  | .recycleLock w => recycleLock s w
  | .maintScan => maintScan s
  | .maintPush => maintPush capFix s
  | .shutdownLock => some (shutdownLock s)
  | .wait => some (waitEv s)

def run (s : St) : List Ev → Option St
  | [] => some s
  | e :: es => (step s e).bind (run · es)

/-- the worker, released, completes the pass it is in (scan, connects and pushes) -/
def finishMaint : Nat → St → St
  | 0, s => s
  | fuel + 1, s =>
    match s.maint with
    | .scan => match maintScan s with | some s' => finishMaint fuel s' | none => s
    | .push _ _ _ => match maintPush capFix s with | some s' => finishMaint fuel s' | none => s
    | _ => s

/-- dropping the last handle: a worker that was waiting for the lock completes its pass, then
    `Pool::drop` closes everything that is parked -/
def finish (s : St) : St :=
  let s := finishMaint (s.minIdle + 2) s
  match s.idle with
  | none => s
  | some l => l.foldl (fun s p => updConn s p.1 abortConn) { s with idle := some [] }

def init (isAsync : Bool) (maxSize minIdle sends nSenders : Nat) (plans : List Plan) : St :=
  { isAsync, maxSize, minIdle, sends, idle := some [], conns := [], plans,
    senders := List.replicate nSenders {}, recyclers := [], maint := .scan }

end LV.PoolLts
