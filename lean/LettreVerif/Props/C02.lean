import LettreVerif.Proofs.HeaderReader
import LettreVerif.Proofs.Headers
import LettreVerif.Proofs.HeaderPlain
import LettreVerif.Proofs.MailboxEnc
import LettreVerif.Proofs.Wire
import LettreVerif.Proofs.TextFold
import LettreVerif.Proofs.Utf8Runs
import LettreVerif.Proofs.ContentType
/-!
# C02 — Header section is well-formed and injection-proof for any supplied text

`encodeValue` models `HeaderValue::new` (email-encoding's writer, folding writer and RFC 2047
encoder included); `Headers` the header map; `HeaderReader.split` is an RFC 5322 §2.2 reader.
`ContRunsLe3 v` is an invariant of every Rust `str`: never four UTF-8 continuation octets in a
row (the model works on octets and needs it where the code relies on `is_char_boundary`).

Defined with the proofs: `scan` (`Proofs/HeaderEnc.lean`; `scan .norm v = some .norm` says that `v` is a well-formed header
value, spelt out at `value_wf`), `FName`, `formatFields` (`HeaderReader`), `WordOkL`, `joinSp` (`TextFold`), `AddrOk` (`MailboxEnc`).
-/
namespace LV.C02
open LV LV.HeaderEnc LV.HeaderReader LV.Headers

/-- Whatever text is supplied — CR, LF, CRLF+SP, NUL, any control or non-ASCII character, any
    length — the encoded value has no bare CR or LF, every CRLF in it is followed by a space
    (a fold), every other octet is HTAB or printable ASCII, and it does not end in a line break. -/
theorem value_wf (nameLen : Nat) (value : Bytes) (hu : ContRunsLe3 value) :
    scan .norm (encodeValue opts nameLen value) = some .norm :=
  encodeValue_wf true nameLen value hu

/-- **The same for every Rust string, with no hypothesis.** A Rust `str` is the UTF-8 encoding of a sequence of scalar
    values; such octets never have four continuation octets in a row (`Proofs/Utf8Runs.lean`, over Lean's own UTF-8 encoder). -/
theorem value_wf_every_string (nameLen : Nat) (text : List Char) :
    scan .norm (encodeValue opts nameLen (encodeUtf8 text)) = some .norm :=
  value_wf nameLen _ (Utf8Runs.contRuns_str text)

/-- An accepted header name is visible ASCII without ':' — it cannot contain CR, LF, HTAB,
    space or any control character. -/
theorem name_safe (n : Bytes) (h : nameOk strictNames n = true) : FName n := by
  simp only [nameOk, strictNames, if_true, Bool.and_eq_true, Bool.not_eq_true', decide_eq_true_eq] at h
  refine ⟨by intro e; rw [e] at h; simp at h, ?_⟩
  intro b hb
  have := (List.all_eq_true.mp h.2) b hb
  simp only [Bool.and_eq_true, decide_eq_true_eq, bne_iff_ne, ne_eq] at this
  exact ⟨this.1.1, this.1.2, this.2⟩

/-- A section written field by field from accepted names and well-formed values is read back by
    an RFC 5322 reader as exactly those fields, in order, followed by the body: no supplied text
    adds, splits, truncates or terminates a field. -/
theorem section_read_back (fs : List (Bytes × Bytes)) (body : Bytes)
    (hf : ∀ f ∈ fs, FName f.1 ∧ scan .norm f.2 = some .norm) :
    split (formatFields fs ++ [13, 10] ++ body) = some (fs, body) :=
  split_formatFields fs body hf

/-- The same for a header map: every stored field was built by `HeaderValue::new` from an
    accepted name and a Rust string, so what `Display` prints reads back as exactly the stored
    fields, in insertion order. -/
theorem headers_read_back (hs : List HV) (body : Bytes)
    (hh : ∀ h ∈ hs, nameOk strictNames h.name = true ∧ ContRunsLe3 h.raw ∧
      h.encoded = encodeValue opts h.name.length h.raw) :
    split (display hs ++ [13, 10] ++ body) = some (hs.map (fun h => (h.name, h.encoded)), body) := by
  have e : display hs = formatFields (hs.map fun h => (h.name, h.encoded)) := by
    rw [formatFields, List.map_map]
    rfl
  rw [e]
  apply section_read_back
  intro f hf
  simp only [List.mem_map] at hf
  obtain ⟨h, hm, rfl⟩ := hf
  obtain ⟨h1, h2, h3⟩ := hh h hm
  exact ⟨name_safe h.name h1, by simp only; rw [h3]; exact value_wf _ _ h2⟩

/-- One field per name, case-insensitively: `insert_raw` and `remove_raw` keep names unique. -/
theorem names_stay_unique (hs : List HV) (v : HV) (n : Bytes) (hu : Unique hs) :
    Unique (insertRaw hs v) ∧ Unique (removeRaw n hs) ∧ find (removeRaw n hs) n = none :=
  ⟨insertRaw_unique hs v hu, removeRaw_unique n hs hu, removeRaw_gone n hs hu⟩

/-- non-vacuity: a CRLF + injected field in a Subject is encoded away; the reader sees one
    Subject field and the body. -/
example :
    let v := encodeValue opts 7 (str "x\r\nBcc: evil@example.com")
    scan .norm v = some .norm ∧
    (split (str "Subject: " ++ v ++ str "\r\n\r\nbody")).map (fun r => (r.1.length, r.2)) = some (1, str "body") := by
  decide +kernel

/-- **Folding is transparent.** A value all of whose words are printable ASCII and not of the shape `=?…?=` is written
    without any encoding, and an RFC 5322 reader that unfolds the field body reads exactly the value: folding neither
    adds nor removes nor moves a single octet of it. -/
theorem plain_value_unfolds_to_itself (n : Nat) (value : Bytes)
    (h : ∀ x ∈ splitInclusive [] value, HeaderEnc.PlainWord x) :
    HeaderReader.unfold (encodeValue opts n value) = value :=
  HeaderEnc.unfold_encodeValue_plain n value h

/-! ### recorded findings, exhibited by the model (the same inputs fail on the real code: `known_findings.json`) -/

/-- finding `tab-not-a-fold-point`: a 72-character name and a value whose only white space is HTAB give a line over 78
    octets that has two tokens (it could have been folded at the HTAB) -/
theorem tab_not_fold_point_witness :
    HeaderReader.longLinesAreSingleTokens ((List.replicate 72 88) ++ [58, 32] ++ encodeValue opts 72 (str "aaaa\tbbbb") ++ [13, 10]) = false := by
  decide +kernel

/-- finding `trailing-white-space-past-78`: spaces at the end of the value are appended to a full last line -/
theorem trailing_spaces_witness :
    (HeaderReader.physicalLines [] ((List.replicate 10 88) ++ [58, 32] ++ encodeValue opts 10 ((List.replicate 66 97) ++ [32, 32, 32]))).any
      (fun l => l.length > 78) = true := by
  decide +kernel

/-- finding `space-run-over-998`: a run of 1000 spaces is written on one line -/
theorem space_run_witness :
    (HeaderReader.physicalLines [] ((str "X") ++ [58, 32] ++ encodeValue opts 1 (List.replicate 1000 32 ++ [120]))).any
      (fun l => l.length > 998) = true := by
  decide +kernel

/-- **Content-Type** (`ContentType::display`, which since `fix:` b49469c only folds a printable-ASCII media type and sends
    anything else through `HeaderValue::new`): whatever the media type's text — any string — the value is well formed. -/
theorem content_type_wf (text : List Char) : scan .norm (contentTypeValue (encodeUtf8 text)) = some .norm :=
  contentTypeValue_wf _ (Utf8Runs.contRuns_str text)

/-! ## line lengths of text values -/

/-- **A text value made of words is folded within the limits, however long.** For every list of words — visible ASCII,
    each of 1 to 77 octets, none of the shape `=?…?=` — separated by single spaces, the first of which fits after the field
    name, every line of the field that `HeaderValue::new` writes (name, colon and space included) is at most 78 octets
    long. This is the 78-octet clause of the property for `Subject`-like values on the class where no recorded folding
    finding applies (no HTAB, no runs of blanks, no trailing blank, nothing that needs an encoded-word); outside it the
    bound is checked on the real output (and has the recorded findings). -/
theorem text_value_folded (nameLen : Nat) (ts : List Bytes) (hne : ts ≠ []) (ht : ∀ t ∈ ts, TextFold.WordOkL 78 t)
    (hfirst : ∀ t, ts.head? = some t → nameLen + 2 + t.length ≤ 78) :
    HeaderReader.linesOkGo true 78 (nameLen + 2) (encodeValue opts nameLen (TextFold.joinSp ts) ++ [13, 10]) = true :=
  TextFold.text_value_lines nameLen ts hne ht hfirst

/-- **… and within 998 octets when the words are long**: the same for words of up to 900 octets under any accepted field
    name (at most 76 octets) — "no line exceeds 998 octets when every white-space-free run is shorter than 900", on the
    same class of values; more generally, for every limit `lim ≥ 78`, words shorter than `lim`, the first of which fits
    after the field name, give lines within `lim` (`TextFold.text_value_lines_lim`): a line longer than 78 octets holds one
    word that is itself that long. -/
theorem text_value_within_998 (nameLen : Nat) (hn : nameLen ≤ 76) (ts : List Bytes) (hne : ts ≠ [])
    (ht : ∀ t ∈ ts, TextFold.WordOkL 901 t) :
    HeaderReader.linesOkGo true 998 (nameLen + 2) (encodeValue opts nameLen (TextFold.joinSp ts) ++ [13, 10]) = true := by
  refine TextFold.text_value_lines_lim 998 (by decide) nameLen ts hne (fun t h => (ht t h).mono (by decide)) fun t h => ?_
  have := (ht t (List.mem_of_mem_head? h)).len
  omega

/-- non-vacuity: forty words of nine octets under `Subject` — six lines, none over 78 octets (`physicalLines` counts the
    empty piece after the last CRLF as a seventh); and `encShaped`, the shape test of `WordOkL`, on one of them and on a
    token `=?x?=` -/
example :
    let ts : List Bytes := (List.range 40).map fun i => str s!"word{1000 + i}x"
    (HeaderReader.physicalLines [] (str "Subject: " ++ encodeValue opts 7 (TextFold.joinSp ts) ++ [13, 10])).all (fun l => l.length ≤ 78) = true ∧
    (HeaderReader.physicalLines [] (str "Subject: " ++ encodeValue opts 7 (TextFold.joinSp ts) ++ [13, 10])).length = 7 ∧
    TextFold.encShaped (str "word1000x") = false ∧ TextFold.encShaped (str "=?x?=") = true := by
  decide +kernel

/-! ## mailbox headers (From, Sender, To, Cc, Bcc, Reply-To) and Content-Disposition -/

/-- **A mailbox header cannot be broken by any display name.** For every list of mailboxes — names arbitrary Rust strings
    (CR, LF, CRLF + an injected field, NUL, quotes, backslashes, anything), addresses printable ASCII — the value that
    `Mailboxes::encode` writes after `Name: ` is well formed in the sense of `value_wf`: an RFC 5322 reader sees exactly
    one field. (`Model/MailboxEnc.lean`: `quoted_string::encode` with its four strategies, `write_unbreakable`, compared
    octet for octet with the code on every generated mailbox and list.) -/
theorem mailbox_header_wf (nameLen : Nat) (ms : List (Option Bytes × Bytes))
    (hm : ∀ m ∈ ms, (∀ n, m.1 = some n → HeaderEnc.ContRunsLe3 n) ∧ HeaderEnc.Plain m.2) :
    HeaderEnc.scan .norm (MailboxEnc.headerValue nameLen ms) = some .norm :=
  MailboxEnc.mailboxHeader_wf nameLen ms hm

/-- the same with every display name any Rust string (no hypothesis on the names) -/
theorem mailbox_header_wf_every_name (nameLen : Nat) (ms : List (Option (List Char) × Bytes))
    (hm : ∀ m ∈ ms, HeaderEnc.Plain m.2) :
    HeaderEnc.scan .norm (MailboxEnc.headerValue nameLen (ms.map fun m => (m.1.map encodeUtf8, m.2))) = some .norm := by
  apply mailbox_header_wf
  intro m hmem
  obtain ⟨m', hm', rfl⟩ := List.mem_map.mp hmem
  refine ⟨?_, hm m' hm'⟩
  intro n hn
  obtain ⟨x, _, rfl⟩ := Option.map_eq_some_iff.mp hn
  exact Utf8Runs.contRuns_str x

/-- **No file name can break a Content-Disposition header.** For every file name (any Rust string of less than 10^20
    octets: quotes, backslashes, CR, LF, CRLF + an injected field, NUL, non-ASCII) and every printable `kind`, the value
    written by `ContentDisposition::with_name` (`Model/Rfc2231Enc.lean`, compared octet for octet with the code) is well
    formed in the sense of `value_wf`. -/
theorem content_disposition_wf (kind name : Bytes) (hk : HeaderEnc.Plain kind) (hn : name.length < 10 ^ 20) :
    HeaderEnc.scan .norm (Rfc2231Enc.cdispValue kind name) = some .norm :=
  Rfc2231Enc.cdisp_wf kind name hk hn

/-- **A list of bare addresses is folded within the limits, however long.** For every list of addresses (printable ASCII
    without spaces, each at most 75 octets; the field name, `: ` and the first address together at most 76 octets) every
    line of the header that `Mailboxes::encode` writes — the field name included — is at most 78 octets long. Before
    `fix:` 4d26e13 the whole list was one line (sixty recipients: 1492 octets). With `text_value_folded` and
    `text_value_within_998` these are the line-length bounds that are theorems; the others (other values through
    `HeaderValue::new`, names in mailbox headers) are checked on real output and have recorded findings. -/
theorem address_list_folded (nameLen : Nat) (as : List Bytes) (ha : ∀ a ∈ as, MailboxEnc.AddrOk a)
    (hfirst : ∀ a, as.head? = some a → nameLen + 2 + a.length ≤ 76) (hname : nameLen + 2 ≤ 76) :
    HeaderReader.linesOkGo true 78 (nameLen + 2) (MailboxEnc.headerValue nameLen (as.map fun a => (none, a)) ++ [13, 10]) = true :=
  MailboxEnc.address_list_lines nameLen as ha hfirst hname

/-- non-vacuity, and the repaired defect (`fix:` 4d26e13) on the model: sixty recipients are folded, no line exceeds 78 -/
theorem sixty_recipients_folded :
    let ms : List (Option Bytes × Bytes) := (List.range 60).map fun i => (none, str s!"recipient{i}@example.org")
    (HeaderReader.physicalLines [] (str "To: " ++ MailboxEnc.headerValue 2 ms ++ [13, 10])).all (fun l => l.length ≤ 78) = true ∧
    (HeaderReader.physicalLines [] (str "To: " ++ MailboxEnc.headerValue 2 ms ++ [13, 10])).length = 21 := by
  decide +kernel

/-- finding `mailbox-name-start-not-folded`: the first word of a name after `, ` is written whatever room is left -/
theorem name_start_not_folded_witness :
    (HeaderReader.physicalLines [] (str "To: " ++ MailboxEnc.headerValue 2
      [(none, str "aaaaaaaaaaaaaaaaaaaaaaaaaaaaaaaaaaaaaaaaaaaaaaaaaaaaaaaaaaaaaaaaaaaa@b.c"), (some (str "Longername"), str "x@y.z")] ++ [13, 10])).any
      (fun l => l.length > 78) = true := by
  decide +kernel

end LV.C02
