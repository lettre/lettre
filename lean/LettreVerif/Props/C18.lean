import LettreVerif.Model.Transports
import LettreVerif.Proofs.Client
import LettreVerif.Props.C03
import LettreVerif.Proofs.EnvelopeJson
/-!
# C18 — Every transport delivers the same envelope and the same bytes

The SMTP part composes `Client.send_ok` (what a successful send has written; C05 rests on it too)
with C03 (`transparency`); the sendmail, file and stub parts are statements about
`Model/Transports.lean`.  That the synchronous and the asynchronous implementations behave
identically is not a theorem: both are compared, case by case, with the one model
(`Model/Client.lean`, `Model/Transports.lean`) by the correspondence check, and with each other.
Partial: file system, process spawning and JSON are inputs.
-/
namespace LV.C18
open LV LV.Client LV.Transports LV.Response

/-- SMTP: when a send succeeds, the server was given exactly the reverse path, exactly the
    recipients in order, and content from which an RFC 5321 server reconstructs exactly the
    message octets (plus the CRLF that ends the data). -/
theorem smtp_sink_gets_exactly (c : Conn) (from? : Option Bytes) (to : List Bytes) (msg : Bytes)
    (h : c.shut = false) (r : Resp) (hok : (c.send from? to msg).2 = .ok r) :
    (c.send from? to msg).1.sent =
      Codec.wire msg :: dataLine :: ((to.map rcptLine).reverse ++
        mailLine from? (needsUtf8 from? to) (needsEight msg) :: c.sent) ∧
    DataServer.serverRun (Codec.wire msg) = (.done, msg ++ CRLF) := by
  obtain ⟨c1, _, hw, hx⟩ := send_ok c from? to msg h r hok
  exact ⟨by simpa using (hw.trans hx).sent, LV.C03.transparency msg⟩

/-- sendmail: `-i`, `-f sender` when there is one, `--`, then exactly the recipients. -/
theorem sendmail_argv_exact (e : Envelope) :
    sendmailArgv e = (match e.from? with | some f => [str "-i", str "-f", f] | none => [str "-i"]) ++
      [str "--"] ++ e.to := by
  cases h : e.from? <;> simp [sendmailArgv, h]

/-- sendmail: a non-zero exit is an error, carrying the process's diagnostics. -/
theorem sendmail_nonzero_is_error (stderr : Bytes) :
    sendmailResult false stderr ≠ .ok ∧
    (utf8Valid stderr = true → sendmailResult false stderr = .clientError stderr) := by
  constructor
  · simp only [sendmailResult, Bool.false_eq_true, if_false]; split <;> simp
  · intro h; simp [sendmailResult, h]

/-- file: the `.eml` file holds exactly the octets. -/
theorem file_eml_exact (e : Envelope) (msg : Bytes) : (fileContents e msg).1 = msg := rfl

/-- JSON string escaping of an address is lossless. -/
theorem json_escape_lossless (s : Bytes) : jsonUnescape (s.flatMap jsonEscapeByte) = some s := by
  induction s with
  | nil => rfl
  | cons b bs ih =>
    simp only [List.flatMap_cons]
    by_cases h1 : b = 34
    · subst h1; simp [jsonEscapeByte, jsonUnescape, ih]
    · by_cases h2 : b = 92
      · subst h2; simp [jsonEscapeByte, jsonUnescape, ih]
      · simp only [jsonEscapeByte, h1, h2, if_false, List.cons_append, List.nil_append]
        unfold jsonUnescape
        simp [h1, h2, ih]

/-- **file: the JSON envelope reads back equal.** For every envelope — any number of recipients, with or without a reverse
    path, quotes and backslashes of quoted local parts included — an independent reader of the object
    `{"forward_path":[…],"reverse_path":…}` (`Spec/EnvelopeJson.lean`: strings end at the first quote that is not escaped)
    applied to the `.json` file the transport writes finds exactly that envelope. (`envelopeJson` is compared octet for octet
    with the real file on every case; the same reader is applied to the real file.) -/
theorem envelope_file_reads_back (e : Envelope) : EnvelopeJson.readEnvelope (envelopeJson e) = some e :=
  EnvelopeJson.read_envelopeJson e

/-- non-vacuity: two recipients, one with the quoted local part `"q\"x"` (a quote and a backslash inside); no reverse path;
    a reverse path; a malformed file is refused -/
example :
    let qa : Bytes := [34, 113, 92, 34, 120, 34] ++ str "@d.e"
    let js : Bytes := str "{\"forward_path\":[\"a@b.c\",\"" ++ [92, 34, 113, 92, 92, 92, 34, 120, 92, 34] ++ str "@d.e\"],\"reverse_path\":null}"
    envelopeJson ⟨none, [str "a@b.c", qa]⟩ = js ∧
    EnvelopeJson.readEnvelope js = some ⟨none, [str "a@b.c", qa]⟩ ∧
    EnvelopeJson.readEnvelope (str "{\"forward_path\":[\"a@b.c\"],\"reverse_path\":\"s@t.u\"}") = some ⟨some (str "s@t.u"), [str "a@b.c"]⟩ ∧
    EnvelopeJson.readEnvelope (str "{\"forward_path\":[\"a@b.c\",],\"reverse_path\":null}") = none := by
  decide +kernel

/-- stub: the logged text is exactly the octets whenever they are UTF-8 … -/
theorem stub_exact_partial (msg : Bytes) (h : utf8Valid msg = true) : stubLog msg = some msg := by
  simp [stubLog, h]

/-- … and only then: for octets that are not UTF-8 (8-bit or binary content) the stub does not
    log the octets (`String::from_utf8_lossy`): the known finding `stub-non-utf8`. -/
theorem stub_lossy_witness : stubLog [255, 254] = none := by decide

end LV.C18
