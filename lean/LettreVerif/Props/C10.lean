import LettreVerif.Proofs.BodyEnc
import LettreVerif.Proofs.QuotedPrintable
import LettreVerif.Proofs.QpLines
import LettreVerif.Proofs.B64Lines
/-!
# C10 — Body transfer encoding is lossless and obeys the declared encoding's rules

`bodyNew isStr b` models `Body::new` (automatic choice), `bodyNewWith` models
`Body::new_with_encoding`; `isStr` = the content was a `String` (lone LF becomes CRLF).  The
reader's side is `Spec/BodyDec.lean`.  Proved here: the CRLF conversion of a `String` content (`crlf_*`); the choice of
the encoding (`auto_range`; when a requested 7bit / 8bit is accepted: `refusal_matrix`); the 7bit rules for 7bit
output, chosen or requested (`sevenbit_ok`, `sevenbit_requested_ok`; about the octets of 8bit output nothing is
proved); the round trips (identity for 7bit / 8bit / binary, base64, quoted-printable); the line rules of
quoted-printable and base64 bodies (`quoted_printable_lines`, `base64_lines`).  `encodedOk` is also applied to every
real encoder output by the correspondence check.
-/
namespace LV.C10
open LV LV.BodyEnc LV.BodyDec

/-- After the conversion every LF follows a CR. -/
theorem crlf_no_bare_lf (s : Bytes) : lfAfterCr false (crlfNormalize s) = true :=
  crlfGo_lfAfterCr false s

/-- Text whose LFs all follow a CR is left unchanged; hence the conversion is idempotent. -/
theorem crlf_idempotent (s : Bytes) : crlfNormalize (crlfNormalize s) = crlfNormalize s :=
  crlfGo_id false _ (crlfGo_lfAfterCr false s)

/-- Only lone LFs are turned into CRLF and nothing else changes: read by a reader for which CRLF
    is the line break (`BodyDec.toLf`), the converted text is the original text — no octet is
    dropped, added or reordered apart from the CR put before a lone LF. -/
theorem crlf_only_line_endings (s : Bytes) : toLf (crlfNormalize s) = toLf s :=
  toLfGo_crlfGo false s

/-- non-vacuity: lone LF, CRLF, bare CR and a final LF in one text -/
example : crlfNormalize (str "a\nb\r\nc\rd\n") = str "a\r\nb\r\nc\rd\r\n" ∧
    toLf (str "a\r\nb\r\nc\rd\r\n") = str "a\nb\nc\rd\n" := by decide +kernel

/-- The automatically chosen encoding is 7bit, quoted-printable or base64. -/
theorem auto_range (isStr : Bool) (b : Bytes) :
    (bodyNew isStr b).1 = .sevenBit ∨ (bodyNew isStr b).1 = .quotedPrintable ∨ (bodyNew isStr b).1 = .base64 :=
  bestEncoding_range BodyEnc.guard isStr b

/-- When 7bit is chosen the emitted octets are ASCII without NUL, CR and LF occur only as CRLF,
    and no line exceeds 998 octets. -/
theorem sevenbit_ok (isStr : Bool) (b : Bytes) (h : (bodyNew isStr b).1 = .sevenBit) :
    sevenBitOk (bodyNew isStr b).2 = true := by
  have h' : bestEncoding true isStr b false = .sevenBit := h
  show sevenBitOk (encodeWith (bestEncoding true isStr b false) _) = true
  rw [h']
  exact sevenbit_ok_gen isStr b h'

/-- 7bit, 8bit and binary are emitted as is: decoding is the identity, the content read back is
    the text with lone LF turned into CRLF, or the octets unchanged. -/
theorem roundtrip_identity (isStr : Bool) (b : Bytes) (e : Enc)
    (he : e = .sevenBit ∨ e = .eightBit ∨ e = .binary) :
    encodeWith e (if isStr then crlfNormalize b else b) = (if isStr then crlfNormalize b else b) := by
  rcases he with rfl | rfl | rfl <;> rfl

/-- **Quoted-printable is lossless.** For every content, the RFC 2045 §6.7 reader applied to what the encoder emits
    gives back exactly that content: line breaks, bare CR and LF, `=`, blanks before a line break or at the end, any
    octet. -/
theorem roundtrip_quoted_printable (b : Bytes) : BodyDec.qpDecode (encodeWith .quotedPrintable b) = some b :=
  BodyEnc.qp_roundtrip b

/-- **Line rules of quoted-printable.** For every content the emitted octets are ASCII, CR and LF occur only as CRLF,
    every line — soft line breaks' `=` included — has at most 76 characters, and no SP / HTAB stands directly before
    a line break or at the end (RFC 2045 §6.7 rules 3 and 5). -/
theorem quoted_printable_lines (b : Bytes) : encodedOk (encodeWith .quotedPrintable b) = true :=
  BodyEnc.qp_encodedOk b

/-- base64: a reader that ignores line breaks recovers exactly the octets. -/
theorem roundtrip_base64 (b : Bytes) : b64Decode (encodeWith .base64 b) = some b :=
  b64Body_roundtrip b

/-- **Line rules of a base64 body.** ASCII, CR and LF only as CRLF, lines of at most 76 characters, no SP / HTAB before
    a line break or at the end.  (That a line holds nothing but the alphabet and `=` is part of `BodyEnc.b64Lines_spec`;
    `encodedOk` does not ask for it.) -/
theorem base64_lines (b : Bytes) : encodedOk (encodeWith .base64 b) = true :=
  BodyEnc.b64_encodedOk b

/-- Quoted-printable, base64 and binary are never refused; 7bit / 8bit are refused exactly
    when the best encoding for the content is not 7bit (resp. 7bit or 8bit), and then the content
    is handed back (`none`: nothing is produced). -/
theorem refusal_matrix (isStr : Bool) (b : Bytes) :
    (∀ e, e = .quotedPrintable ∨ e = .base64 ∨ e = .binary → (bodyNewWith isStr b e).isSome = true) ∧
    ((bodyNewWith isStr b .sevenBit).isSome = true ↔ bestEncoding BodyEnc.guard isStr b true = .sevenBit) ∧
    ((bodyNewWith isStr b .eightBit).isSome = true ↔
      (bestEncoding BodyEnc.guard isStr b true = .sevenBit ∨ bestEncoding BodyEnc.guard isStr b true = .eightBit)) := by
  simp only [bodyNewWith_isSome]
  -- the rows of `compatible`
  refine ⟨?_, ?_, ?_⟩
  · rintro e (rfl | rfl | rfl) <;> rfl
  · cases bestEncoding BodyEnc.guard isStr b true <;> decide
  · cases bestEncoding BodyEnc.guard isStr b true <;> decide

/-- The 7bit rules of `sevenbit_ok` hold as well when 7bit is requested explicitly and accepted. -/
theorem sevenbit_requested_ok (isStr : Bool) (b : Bytes) (o : Bytes)
    (h : bodyNewWith isStr b .sevenBit = some (.sevenBit, o)) : sevenBitOk o = true := by
  have hb : bestEncoding true isStr b true = .sevenBit := (refusal_matrix isStr b).2.1.mp (by rw [h]; rfl)
  have e : bodyNewWith isStr b .sevenBit = some (.sevenBit, if isStr then crlfNormalize b else b) := by
    unfold bodyNewWith BodyEnc.guard; rw [hb]; rfl
  rw [e] at h
  cases h
  exact sevenbit_ok_gen isStr b (best_sevenBit_indep true isStr b hb)

/-- non-vacuity: a short text is 7bit with its LF converted, NUL forces quoted-printable, a lone LF in an octet
    vector base64; the quoted-printable form of a content that ends in a blank decodes back and obeys the line rules
    (instances of `roundtrip_quoted_printable` and `quoted_printable_lines`). -/
example :
    bodyNew true (str "a\nb") = (.sevenBit, str "a\r\nb") ∧
    (bodyNew true [97, 0, 98]).1 = .quotedPrintable ∧ (bodyNew false [97, 10, 98]).1 = .base64 ∧
    qpDecode (bodyNew true [97, 0, 98, 32]).2 = some [97, 0, 98, 32] ∧
    encodedOk (bodyNew true [97, 0, 98, 32]).2 = true := by decide +kernel

end LV.C10
