import LettreVerif.Proofs.PoolHealthy
import LettreVerif.Proofs.TransportInv
/-!
# C08 — Pool reuses only healthy connections and keeps its idle set within bounds

Proved on `Model/PoolLts.lean` for every schedule and every peer behaviour: whatever is within
anybody's reach is neither marked broken nor closed; the idle set never exceeds `max_size` (the
maintenance worker included, after the repair recorded in known_findings.json); a popped
connection is used only after it answered a NOOP, and is closed otherwise; a connection on which
a command failed is closed.  Proved on the sequential transport (`Model/Transport.lean`) for every
history of `send_raw` calls from the empty transport on: what is parked is parked once, unbroken
and open.
Idle-timeout expiry and the top-up to `min_idle` are part of the model (`maintScan`,
`maintContinue`) and are tied to the code by the correspondence runs with wall-clock waits; no
theorem is stated about elapsed time.
-/
namespace LV.C08
open LV.PoolLts

/-- The idle set stays within `max_size` under every order of transitions. `hfix` is the repair switch of the maintenance
    worker (`maintPush` re-checks `max_size` under the lock): a hypothesis, although `capFix_on` proves it, to show what the
    bound rests on — the proof uses it at the worker's push and nowhere else. -/
theorem idle_within_max (hfix : capFix = true) (isAsync : Bool) (maxSize minIdle sends nSenders : Nat)
    (plans : List Plan) (es : List Ev) (s : St)
    (hr : run (init isAsync maxSize minIdle sends nSenders plans) es = some s) :
    ∀ l, s.idle = some l → l.length ≤ s.maxSize :=
  run_inv (fun s e s' hb hs => bound_step hfix s s' e hb hs) es _ s (bound_init isAsync maxSize minIdle sends nSenders plans) hr

/-- the switch is on: the model describes the repaired worker -/
theorem capFix_on : capFix = true := rfl

/-- A popped connection whose peer has gone away is closed and the sender is back at the top of
    the check-out loop: nothing was sent on it, the rest of the idle set is untouched. -/
theorem dead_connection_not_reused (s : St) (i c : Nat) (rest : List (Nat × Bool)) (hc : c < s.conns.length)
    (hd : (getConn s c).peerAlive = false) :
    (usePopped s i c rest).senders = s.senders ∧ (getConn (usePopped s i c rest) c).closed = true ∧
      (usePopped s i c rest).idle = some rest :=
  PoolLts.dead_connection_not_reused s i c rest hc hd

/-- A popped connection is used for a transaction only if the probe succeeded, and then the peer has seen (and
    answered in time, positively) a NOOP right before the transaction. -/
theorem live_connection_probed_first (s : St) (i c : Nat) (rest : List (Nat × Bool))
    (ha : (probe (getConn s c)).2 = true) :
    usePopped s i c rest = sendOn (updConn { s with idle := some rest } c fun _ => (probe (getConn s c)).1) i c ∧
      (probe (getConn s c)).1.hist = .noop :: (getConn s c).hist :=
  PoolLts.live_connection_probed_first s i c rest ha

/-- A popped connection whose probe fails — peer gone, `421`, or no answer within the timeout — is closed; nothing is
    sent on it and the sender is back at the top of the check-out loop. -/
theorem failed_probe_closes (s : St) (i c : Nat) (rest : List (Nat × Bool)) (hc : c < s.conns.length)
    (hf : (probe (getConn s c)).2 = false) :
    (usePopped s i c rest).senders = s.senders ∧ (getConn (usePopped s i c rest) c).closed = true :=
  PoolLts.failed_probe_closes s i c rest hc hf

/-- A connection on which a command failed (`abort` ran) is closed. That it is not handed back to the pool is
    `C07.broken_connection_not_returned`. -/
theorem failed_connection_closed (k : Conn) : (abortConn k).closed = true := (abortConn_closed k).1

/-- **Only healthy connections are within anybody's reach — every schedule.** Under every interleaving of check-outs,
    returns, maintenance passes, waits and shutdowns of the concurrent pool, for any number of senders, any configuration
    and any peer behaviour: a connection that is parked in the idle set, held by a sender between its send and the return,
    or carried by a (tokio) recycle task is neither marked broken nor closed. A connection on which a command failed, a
    probe failed or a reply never came is closed by the thread that saw it and is never where another sender could pick it
    up. -/
theorem reachable_connections_are_healthy (isAsync : Bool) (maxSize minIdle sends nSenders : Nat)
    (plans : List Plan) (es : List Ev) (s : St)
    (hr : run (init isAsync maxSize minIdle sends nSenders plans) es = some s) :
    (∀ l, s.idle = some l → ∀ c x, (c, x) ∈ l → (getConn s c).broken = false ∧ (getConn s c).closed = false) ∧
    (∀ (i : Nat) (t : Sender) (c : Nat), s.senders[i]? = some t → t.holding = some c → (getConn s c).broken = false ∧ (getConn s c).closed = false) ∧
    (∀ c, some c ∈ s.recyclers → (getConn s c).broken = false ∧ (getConn s c).closed = false) := by
  have h := ok_run es _ s (ok_init isAsync maxSize minIdle sends nSenders plans) hr
  exact ⟨fun l hl c x hm => (h.of_pos (occ_pos_of_parked s l hl c x hm)).2,
    fun i t c ht hc => (h.of_pos (occ_pos_of_held s t (List.mem_of_getElem? ht) c hc)).2,
    fun c hc => (h.of_pos (occ_pos_of_recycling s c hc)).2⟩

/-- **The sequential transport, every history** (`Model/Transport.lean`, the model the `pool` cases compare with both
    real transports). After any sequence of `send_raw` calls on a transport that started without connections, whatever
    the peers did on any connection — refused, closed, went silent, answered the NOOP probe or not —: the idle list names
    each parked connection once, and every parked connection exists, is not marked broken and has not been shut. -/
theorem parked_connections_are_healthy (p0 : Transport.Pool) (h0 : p0.conns = [] ∧ p0.idle = [])
    (sends : List (Option Bytes × List Bytes × Bytes)) :
    let p := sends.foldl (fun p s => (p.sendRaw s.1 s.2.1 s.2.2).1) p0
    p.idle.Nodup ∧ ∀ i ∈ p.idle, ∃ c, p.conns[i]? = some c ∧ c.panic = false ∧ c.shut = false := by
  have hinv : ∀ (l : List (Option Bytes × List Bytes × Bytes)) (p : Transport.Pool), Transport.PoolInv p →
      Transport.PoolInv (l.foldl (fun p s => (p.sendRaw s.1 s.2.1 s.2.2).1) p) := by
    intro l
    induction l with
    | nil => intro p h; exact h
    | cons s l ih => intro p h; exact ih _ (Transport.sendRaw_inv p s.1 s.2.1 s.2.2 h)
  have h1 : Transport.PoolInv p0 := by
    obtain ⟨conns, idle, scripts, maxSize, hello, stall⟩ := p0
    obtain ⟨rfl, rfl⟩ := h0
    exact Transport.inv_empty scripts maxSize hello stall
  have h2 := hinv sends p0 h1
  exact ⟨h2.nodup, fun i hi => Transport.parked_healthy _ h2 i hi⟩

/-- non-vacuity: two sends; the first connection is refused at RCPT (closed, not parked), the second is parked -/
example :
    let bad : List Client.Step := [⟨str "220 hi\r\n", false⟩, ⟨str "250 srv\r\n", false⟩, ⟨str "250 ok\r\n", false⟩,
      ⟨str "550 no\r\n", false⟩, ⟨str "221 bye\r\n", false⟩]
    let good : List Client.Step := [⟨str "220 hi\r\n", false⟩, ⟨str "250 srv\r\n", false⟩, ⟨str "250 ok\r\n", false⟩,
      ⟨str "250 ok\r\n", false⟩, ⟨str "354 go\r\n", false⟩, ⟨str "250 queued\r\n", false⟩]
    let p0 : Transport.Pool := { conns := [], idle := [], scripts := [bad, good], maxSize := 2, hello := str "c" }
    let p := [(none, [str "x@y.z"], str "m"), (none, [str "x@y.z"], str "m")].foldl
      (fun (p : Transport.Pool) (s : Option Bytes × List Bytes × Bytes) => (p.sendRaw s.1 s.2.1 s.2.2).1) p0
    p.idle = [1] ∧ p.conns.length = 2 := by
  decide +kernel

example : (run (init false 1 3 1 1 []) [.maintScan, .maintPush, .connectionLock 0, .recycleLock 0]).isSome = true := by
  decide +kernel

end LV.C08
