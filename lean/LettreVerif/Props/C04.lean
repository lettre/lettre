import LettreVerif.Proofs.Client
import LettreVerif.Proofs.XText
import LettreVerif.Spec.Dialogue
/-!
# C04 — SMTP dialogue is valid and carries the exact envelope, whatever the server says

Statements about the client model over an arbitrary scripted peer (every server behaviour).
-/
namespace LV.C04
open LV LV.Client LV.Response

/-- The client waits for the greeting and speaks first with EHLO: nothing is written unless
    the greeting was a positive reply, and then the first unit is the EHLO line (followed at
    most by QUIT when EHLO fails). -/
theorem ehlo_first (script : List Step) (hello : Bytes) :
    ((connect script hello).1.sent = [] ∧ ∃ e, (connect script hello).2 = .error e) ∨
    (connect script hello).1.sent = [ehloLine hello] ∨
    ((connect script hello).1.sent = [quitLine, ehloLine hello] ∧ ∃ e, (connect script hello).2 = .error e) := by
  have hd := deliver_wrote (Conn.fresh script [] none)
  rw [connect_eq]
  rcases greet_spec _ hello hd.shut with ⟨c', e, h1, hw⟩ | ⟨c', i, h1, hw⟩ | ⟨c', e, h1, hc⟩ <;> rw [h1]
  · exact .inl ⟨(hd.trans hw).sent, e, rfl⟩
  · exact .inr (.inl (hd.trans hw).sent)
  · rcases (Closed.after hd hc).sent_cases with hs | hs
    · exact .inr (.inl hs)
    · exact .inr (.inr ⟨hs, e, rfl⟩)

/-- One command at a time: `command` is, by definition, `write` then `read`; on the wire it adds
    exactly its one line, and `read` writes nothing — so nothing is written between a command's
    line and the reading of its reply. -/
theorem one_command_then_its_reply (c : Conn) (l : Bytes) (h : c.shut = false) :
    (c.command l).1.sent = l :: c.sent ∧ c.read.1.sent = c.sent :=
  ⟨by simpa [h] using (command_wrote c l).sent, (read_wrote c).sent⟩

/-- A send that reaches the server writes `MAIL FROM:<reverse-path>` (empty path when there is
    none) with SMTPUTF8 exactly when an address is not ASCII and BODY=8BITMIME exactly when the
    content is not ASCII, then one `RCPT TO:<recipient>` per envelope recipient, in order, then
    DATA, then the dot-stuffed content — or a prefix of that sequence when the server refuses a
    step (then at most QUIT follows).  If a needed extension was not advertised the send fails
    before MAIL. -/
theorem envelope_on_the_wire (c : Conn) (from? : Option Bytes) (to : List Bytes) (msg : Bytes)
    (h : c.shut = false) :
    ((c.send from? to msg) = (c, .error .client) ∧
        ((needsUtf8 from? to = true ∧ c.supports (·.smtpUtf8) = false) ∨
         (needsEight msg = true ∧ c.supports (·.eightBit) = false))) ∨
    (∃ (c1 : Conn) (r : Resp), (c.send from? to msg) = ((c1.message msg).1, .ok r) ∧ (c1.message msg).2 = .ok r ∧
        c1.shut = false ∧
        c1.sent = dataLine :: ((to.map rcptLine).reverse ++
          mailLine from? (needsUtf8 from? to) (needsEight msg) :: c.sent) ∧
        (c1.message msg).1.sent = Codec.wire msg :: c1.sent) ∨
    (∃ (c' : Conn) (e : Err) (us : List Bytes), (c.send from? to msg) = (c', .error e) ∧ Aborted c c' us ∧
        (us = [mailLine from? (needsUtf8 from? to) (needsEight msg)] ∨
         (∃ k, k < to.length ∧
            us = mailLine from? (needsUtf8 from? to) (needsEight msg) :: (to.take (k + 1)).map rcptLine) ∨
         us = mailLine from? (needsUtf8 from? to) (needsEight msg) :: to.map rcptLine ++ [dataLine] ∨
         us = mailLine from? (needsUtf8 from? to) (needsEight msg) :: to.map rcptLine ++
            [dataLine, Codec.wire msg])) := by
  rcases send_spec c from? to msg h with h1 | ⟨c1, r, h1, h2, hw, hx⟩ | ⟨c', e, us, h1, hc, hus⟩
  · exact .inl h1
  · exact .inr (.inl ⟨c1, r, h1, h2, hw.shut.trans h, by simpa using hw.sent, hx.sent⟩)
  · exact .inr (.inr ⟨c', e, us, h1, hc.aborted, hus⟩)

/-- The extension is required: a non-ASCII address (resp. content) with a server that did not
    advertise SMTPUTF8 (resp. 8BITMIME) fails before anything is written. -/
theorem extension_required (c : Conn) (from? : Option Bytes) (to : List Bytes) (msg : Bytes)
    (h : (needsUtf8 from? to = true ∧ c.supports (·.smtpUtf8) = false) ∨
         (needsEight msg = true ∧ c.supports (·.eightBit) = false)) :
    c.send from? to msg = (c, .error .client) := by
  unfold Conn.send
  rcases h with ⟨h1, h2⟩ | ⟨h1, h2⟩
  · simp [h1, h2]
  · by_cases h3 : (needsUtf8 from? to && !c.supports (·.smtpUtf8)) = true
    · simp [h3]
    · simp [h3, h1, h2]

/-- The MAIL line spells the parameters exactly: `SMTPUTF8` iff asked, `BODY=8BITMIME` iff
    asked, the reverse path between angle brackets, one CRLF at the end. -/
theorem mail_line_exact (from? : Option Bytes) (u e : Bool) :
    mailLine from? u e = str "MAIL FROM:<" ++ from?.getD [] ++ str ">" ++
      (if u then str " SMTPUTF8" else []) ++ (if e then str " BODY=8BITMIME" else []) ++ CRLF := rfl

/-- a byte string with neither CR nor LF anywhere (`ReplyGrammar.noCrlf`, one letter of case apart, forbids only the
    pair CR LF) -/
def noCrLf (a : Bytes) : Bool := a.all (fun b => b != 13 && b != 10)

/-- `body ++ CRLF` is one line exactly when `body` has no CR and no LF. -/
theorem single_line_iff (body : Bytes) : Dialogue.singleLine (body ++ CRLF) = noCrLf body := by
  simp [Dialogue.singleLine, noCrLf, CRLF, List.reverse_append]

theorem noCrLf_append (a b : Bytes) : noCrLf (a ++ b) = (noCrLf a && noCrLf b) := List.all_append

/-- No command line contains CR or LF other than its terminator: for every reverse path and
    recipient free of CR and LF (every accepted `Address` is — C16 `accepted_is_safe`), every
    combination of the two extension flags, and every hello name free of CR and LF, the MAIL,
    RCPT and EHLO lines are single lines.  (The converse direction is the two recorded findings
    below: a hello name or a custom parameter keyword with CR LF is written as it is.) -/
theorem command_lines_single (from? : Option Bytes) (a hello : Bytes) (u e : Bool)
    (hf : noCrLf (from?.getD []) = true) (ha : noCrLf a = true) (hh : noCrLf hello = true) :
    Dialogue.singleLine (mailLine from? u e) = true ∧ Dialogue.singleLine (rcptLine a) = true ∧
      Dialogue.singleLine (ehloLine hello) = true := by
  have k1 : noCrLf (str "MAIL FROM:<") = true := by decide
  have k2 : noCrLf (str ">") = true := by decide
  have k3 : noCrLf (if u then str " SMTPUTF8" else []) = true := by cases u <;> decide
  have k4 : noCrLf (if e then str " BODY=8BITMIME" else []) = true := by cases e <;> decide
  have k5 : noCrLf (str "RCPT TO:<") = true := by decide
  have k6 : noCrLf [69, 72, 76, 79, 32] = true := by decide
  refine ⟨?_, ?_, ?_⟩
  · rw [mailLine, single_line_iff]
    simp only [noCrLf_append, k1, k2, k3, k4, hf, Bool.and_true]
  · rw [rcptLine, single_line_iff]
    simp only [noCrLf_append, k5, k2, ha, Bool.and_true]
  · rw [ehloLine, single_line_iff]
    simp only [noCrLf_append, k6, hh, Bool.and_true]

/-- non-vacuity: a UTF-8 reverse path with both flags, a quoted recipient, a hello name -/
example : noCrLf (str "é@x.org") = true ∧ noCrLf (str "\"a b\"@x.org") = true ∧
    Dialogue.singleLine (mailLine (some (str "é@x.org")) true true) = true := by decide +kernel

/-- Extension parameter values are valid xtext: an RFC 3461 receiver decodes exactly the value
    that was given (all octets, including controls, `+`, `=`, space and DEL). -/
theorem xtext_valid (v : Bytes) : XTextSpec.decode (XText.xtext v) = some v :=
  XText.decode_encode v

/-- non-vacuity: a value with HTAB, `+`, `=`, space and DEL -/
example : XText.xtext [97, 9, 43, 61, 32, 127, 98] =
    str "a+09+2B+3D+20+7Fb" := by decide +kernel

/-! ### recorded findings, exhibited by the model -/

/-- finding `hello-domain-crlf`: a CR LF in `ClientId::Domain` is written into the EHLO line as it is — the line is no
    longer a single command line -/
theorem ehlo_domain_crlf_witness :
    Dialogue.singleLine (ehloLine (str "a\r\nRSET")) = false := by decide +kernel

/-- finding `param-keyword-crlf`: the keyword of a custom MAIL / RCPT parameter is written as it is -/
theorem param_keyword_crlf_witness :
    Dialogue.singleLine (str "MAIL FROM:<> " ++ XText.param (str "X\r\nRSET") none ++ CRLF) = false := by decide +kernel

end LV.C04
