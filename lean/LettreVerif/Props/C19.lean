import LettreVerif.Model.BodyEnc
import LettreVerif.Proofs.B64Lines
import LettreVerif.Model.Dkim
import LettreVerif.Spec.Cost
import LettreVerif.Model.XText
import LettreVerif.Proofs.C03
import LettreVerif.Proofs.EnvelopeJson
import LettreVerif.Proofs.TypedHdr
import LettreVerif.Proofs.FoldSize
import LettreVerif.Proofs.FoldSizePlain
/-!
# C19 — No input makes the library panic, overflow the stack, or run away

What a theorem can carry here is limited and is stated as such (level: model + correspondence,
partial).  Every function of `Model/` is a total Lean function — accepted by the termination
checker, no `partial` — and the models take no step that the code implements with `unwrap`,
`expect`, indexing or slicing without a model branch for it; the correspondence checks of all
other properties compare them with the code on every case and report a panic of the code as a
violation.  Stack depth, wall time and allocation are runtime facts: they are measured on the
real entry points (2 MiB stacks, optimised and unoptimised builds, sizes doubling to 4 MiB)
against `Spec/Cost.lean`.

The theorems below bound the *size* of what the modelled kernels produce (no blow-up: output
linear in the input), which is the part of "near-linear" a model can express.
-/
namespace LV.C19
open LV

/-- CRLF normalisation at most doubles the text. -/
theorem crlf_at_most_doubles (p : Bool) (s : Bytes) : (BodyEnc.crlfGo p s).length ≤ 2 * s.length := by
  fun_induction BodyEnc.crlfGo p s <;>
    simp_all only [List.length_cons, List.length_nil, Nat.mul_succ, Nat.add_le_add_iff_right, Nat.le_refl, Nat.le_add_right_of_le]

/-! A step of the two DKIM canonicalisations below reads an octet and writes one for it, or none. -/

theorem length_cons_le_cons {α : Type} {xs ys : List α} (x y : α) (h : xs.length ≤ ys.length) :
    (x :: xs).length ≤ (y :: ys).length := Nat.succ_le_succ h

theorem length_le_cons {α : Type} {xs ys : List α} (y : α) (h : xs.length ≤ ys.length) :
    xs.length ≤ (y :: ys).length := Nat.le_succ_of_le h

/-- DKIM relaxed body canonicalisation never grows the body. -/
theorem relaxed_body_no_growth (s : Bytes) : (Dkim.relaxedGo s).length ≤ s.length := by
  fun_induction Dkim.relaxedGo s <;> simp only [length_cons_le_cons, length_le_cons, Nat.le_refl, *]

/-- DKIM relaxed header canonicalisation never grows the header section (and is a total
    function whose recursion is on the remaining input: one step per octet, no nesting). -/
theorem relaxed_headers_no_growth (m : Dkim.Mode) (h : Bytes) : (Dkim.relH m h).length ≤ h.length := by
  fun_induction Dkim.relH m h <;> simp only [length_cons_le_cons, length_le_cons, Nat.le_refl, *]

/-- Base64 output length is exactly 4 · ⌈n/3⌉. -/
theorem base64_length (b : Bytes) : (Base64.enc b).length = 4 * ((b.length + 2) / 3) :=
  BodyEnc.enc_len b

/-- The base64 body (76-character lines, CRLF between them) is at most twice the content plus four octets. -/
theorem base64_body_linear (b : Bytes) : (BodyEnc.b64Body b).length ≤ 2 * b.length + 4 := by
  unfold BodyEnc.b64Body
  split
  · simp
  · exact BodyEnc.b64Lines_size _ b

/-- An xtext parameter value is at most three times the value. -/
theorem xtext_at_most_triples (v : Bytes) : (XText.xtext v).length ≤ 3 * v.length := by
  rw [XText.xtext, XText.encode, ← List.flatMap_def]
  refine length_flatMap_le (fun b => ?_) v
  unfold XText.encByte; split
  · split <;> simp
  · simp

/-- Everything written in the DATA phase (dot-stuffed content and the end-of-data marker) is at
    most twice the message plus five octets. -/
theorem data_phase_linear (m : Bytes) : (Codec.wire m).length ≤ 2 * m.length + 5 := by
  rw [Codec.wire, List.length_append]
  exact Nat.add_le_add (C03.encode_len .sol m).2 (Nat.le_refl 5)

/-- The envelope file of the file transport is linear in the envelope: at most twice the octets of the addresses (every one
    could need a backslash), three octets per recipient (quotes and comma) and 42 more (the keys and brackets, the quotes
    of the reverse path or `null`; 39 would do). -/
theorem envelope_json_linear (e : Transports.Envelope) :
    (Transports.envelopeJson e).length ≤
      2 * ((e.to.map List.length).sum + (e.from?.map List.length).getD 0) + 3 * e.to.length + 42 :=
  EnvelopeJson.envelopeJson_linear e

/-- **The folding writer at most triples its input** (every token can cost one fold, CRLF, on top of its own octets): the
    octets written plus the blanks pending after `FoldingEmailWriter::write_str(s)` exceed those before by at most `3 · |s|`. -/
theorem folding_writer_linear (w : HeaderEnc.W) (s : Bytes) : (HeaderEnc.foldWrite w s).size ≤ w.size + 3 * s.length :=
  HeaderEnc.size_foldWrite w s

/-- … hence `HeaderValue::new` on a value all of whose words are printable ASCII (none of the shape `=?…?=`) writes at most
    three times the value, whatever the header name (partial: values with words that need an encoded-word are not covered). -/
theorem plain_header_value_linear (n : Nat) (value : Bytes)
    (h : ∀ x ∈ HeaderEnc.splitInclusive [] value, HeaderEnc.PlainWord x) :
    (HeaderEnc.encodeValue HeaderEnc.opts n value).length ≤ 3 * value.length :=
  HeaderEnc.encodeValue_plain_linear n value h

/-- … and what `ContentType::display` writes for a printable-ASCII media type is at most three times the text. -/
theorem content_type_linear (raw : Bytes) (h : raw.all (HeaderEnc.allowedChar true) = true) :
    (HeaderEnc.contentTypeValue raw).length ≤ 3 * raw.length :=
  HeaderEnc.contentTypeValue_linear raw h

/-- A MIME-Version value has at most seven octets. -/
theorem mime_version_short (a b : Nat) : (TypedHdr.mimeDisplay a b).length ≤ 7 := by
  have := TypedHdr.u8Digits_length a
  have := TypedHdr.u8Digits_length b
  rw [TypedHdr.mimeDisplay, List.length_append, List.length_cons]
  omega

/-- non-vacuity / tightness: a message of dots after CRLF doubles; a value of controls triples -/
example : (Codec.wire [46]).length = 2 * 1 + 5 ∧ (XText.xtext [0, 9, 32]).length = 3 * 3 := by decide +kernel

/-! The timing rule on concrete series: linear and n·log n series pass, a quadratic one does not. -/
example : Cost.superLinear [(65536, 25000), (131072, 50000), (262144, 101000), (524288, 203000)] = false := by decide
example : Cost.superLinear [(65536, 25000), (131072, 55000), (262144, 118000), (524288, 252000)] = false := by decide
example : Cost.superLinear [(65536, 25000), (131072, 100000), (262144, 400000)] = true := by decide

end LV.C19
