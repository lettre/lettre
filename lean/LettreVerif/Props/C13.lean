import LettreVerif.Proofs.Dkim
import LettreVerif.Proofs.DkimSig
/-!
# C13 — DKIM signatures verify under an independent RFC 6376 verifier

The cryptographic primitives are parameters (assumption A6: a signature over `sha256 x`
verifies against `sha256 y` iff `x = y`).  What is proved is about the octet strings that get
hashed: the signer's (`Model/Dkim.lean`, tied to `dkim.rs` by the correspondence check, which
also checks with real primitives that `bh=` / `b=` are over exactly these strings) against the
reader's (`Spec/DkimVerifier.lean`, written from RFC 6376 §3.4/§3.7/§5.4.2).

Proved for every message: the body half (both canonicalizations) and its invariance under the CRLF that SMTP DATA
framing supplies (C03); that signing adds the signature field and nothing else; that `h=` lists the configured names;
that the relaxed header canonicalization kernel equals RFC 6376 §3.4.2 field by field on well-formed header blocks,
whatever the folding; that for header maps without repeated names the covered fields are exactly the §5.4.2 selection
for every `h=` list (`signed_fields_input_agrees`); and that the whole header hash input of the signer, signature field
included, is what an RFC 6376 verifier's field selection, canonicalization and deletion of `b=` give on the fields of
the message as `Headers` prints them (`header_input_agrees_relaxed`, `fld`; the signature field's part is
`sig_field_canon_agrees`).  The step before, splitting the received octets into fields (`DkimVerifier.view`,
`splitMessage`), is in no theorem: the driver runs `view` on the octets of every case.  Hypotheses, each evaluated by
the driver per case in a Boolean form (`Driver/C13.lean`, with `mailFieldOk` and `uniqueNames`; that form and the
hypothesis are matched by reading, no theorem links them): the configuration's strings contain no `;`, the words of the
signature field's value are printable ASCII and not of the shape `=?…?=`, the signature is base64 text, header fields
in the shape lettre emits, no repeated names.  For `cfg.hc = .simple` the statement is false of the code (known finding
`simple-header-canon-signature-field-refolded`: the hashed field has `bh=…; b=` on one line, the emitted field is
folded before `b=<signature>`; `simple_sig_field_witness` exhibits it in the model).
-/
namespace LV.C13
open LV LV.Dkim LV.Headers

def isRelaxed (c : Canon) : Bool := c == .relaxed

/-- **Body hash.** For every message and both canonicalizations, the octets the signer hashes
    for `bh=` are the RFC 6376 canonical form of the body that follows the empty line of the
    emitted message — including empty bodies, blank-line-only bodies, trailing blank lines,
    trailing white space and a missing final CRLF. -/
theorem body_hash_input_agrees (cfg : Cfg) (m : Msg) :
    bodyInput opts cfg m = DkimVerifier.bodyCanon (isRelaxed cfg.bc) m.body := by
  rw [bodyInput, Msg.bodyRaw, DkimVerifier.bodyCanon, isRelaxed]
  cases cfg.bc with
  | simple => rw [if_neg (by decide)]; exact simple_body_agrees opts m.body
  | relaxed => rw [if_pos (by decide)]; exact relaxed_body_agrees opts rfl m.body

/-- The body the verifier canonicalizes is the same whether it reads the stored octets or the
    octets an SMTP server received (which end in the CRLF the client supplies when the message
    has none, C03). -/
theorem body_transport_invariant (relaxed : Bool) (b : Bytes) :
    DkimVerifier.bodyCanon relaxed (b ++ CRLF) = DkimVerifier.bodyCanon relaxed b := by
  unfold DkimVerifier.bodyCanon
  split
  · exact relaxedBody_crlf b
  · exact simpleBody_crlf b

/-- **Relaxed header canonicalization.** On any header block in the shape `Headers` prints and lettre's encoder folds
    (names in lower case without colon, values whose every CR LF is a fold, no fold right after the blanks that follow
    the colon — `WFField`), the signer's kernel (`dkim_canonicalize_headers_relaxed`, transcribed as `relH`) produces,
    field by field, exactly RFC 6376 §3.4.2: unfolded, runs of white space reduced to one SP, no white space at the end
    of the value nor after the colon. The signer applies it to the covered fields and to the DKIM-Signature field,
    both under lower-case names; `WFField` of them follows from `WFMailField` of the message's fields
    (`Dkim.wfField_of_mail`). The driver does not evaluate `WFField`: on every field of every generated message it
    checks `mailFieldOk`, which says what `WFMailField` says and has no lower-case condition. -/
theorem relaxed_header_canon_agrees (hs : List HV) (hw : ∀ h ∈ hs, WFField h) :
    relH .name (display hs) = (hs.map fun h => DkimVerifier.relaxedField (fld h)).flatten :=
  relH_display hs hw

/-- …in particular folding does not matter: value mode gives the same on a folded value and on its unfolded text. -/
theorem relaxed_value_fold_invariant (v x : Bytes) (hv : wfValue v = true) :
    relH .value (v ++ 13 :: x) = relH .value (HeaderReader.unfold v ++ 13 :: x) :=
  relH_value_unfold v x hv

/-- **Which fields are hashed, and in which form (relaxed).** For a header map without repeated names whose fields are
    in the shape lettre emits (`WFMailField`), and for *every* `h=` list — subsets, absent names, repeated names, any
    letter case —: what the signer hashes for the covered fields is the concatenation of the RFC 6376 §3.4.2 canonical
    forms of exactly the fields a §5.4.2 reader selects from the message (`insert_raw` de-duplication = bottom-up
    selection with one instance per name). -/
theorem signed_fields_input_agrees (names : List Bytes) (mail : List HV) (hu : Unique mail)
    (hw : ∀ h ∈ mail, WFMailField h) :
    canonHeaders opts .relaxed names mail =
      ((DkimVerifier.select names (mail.map fld)).map DkimVerifier.relaxedField).flatten :=
  signed_fields_agree opts names mail hu hw

/-- **The signature field's own contribution (relaxed).** The verifier takes the DKIM-Signature field it received,
    deletes the value of `b=` and canonicalizes (RFC 6376 §3.7, §3.4.2); the signer canonicalized the field it had
    built with an empty `b=`, under the lower-case name. lettre folds the two differently (the last word is `b=` in one
    and `b=<signature>` in the other); their canonical forms are equal all the same. -/
theorem sig_field_canon_agrees (cfg : Cfg) (ts : Nat) (bh sig : Bytes) (hcfg : CfgOk cfg bh)
    (hplain : ∀ x ∈ HeaderEnc.splitInclusive [] (headerValue cfg ts bh []), HeaderEnc.PlainWord x)
    (hsig : ∀ c ∈ sig, BodyEnc.b64Char c) :
    DkimVerifier.relaxedField (DkimVerifier.deleteB (fld (HV.new sigName (headerValue cfg ts bh sig)))) =
      DkimVerifier.relaxedField (fld (HV.new (lowerName sigName) (headerValue cfg ts bh []))) :=
  Dkim.sig_field_canon_agrees cfg ts bh sig hcfg hplain hsig

/-- **The header hash input, whole (relaxed).** For every message, `h=` list, time stamp and signature text: what the
    signer hashes = the canonical forms of the fields an RFC 6376 §5.4.2 reader selects, followed by the canonical
    form of the received DKIM-Signature field with the value of `b=` deleted and without its final CRLF. -/
theorem header_input_agrees_relaxed (cfg : Cfg) (ts : Nat) (m : Msg) (sig : Bytes) (hc : cfg.hc = .relaxed)
    (hu : Unique (m.signable opts cfg.names)) (hw : ∀ h ∈ m.signable opts cfg.names, WFMailField h)
    (hcfg : CfgOk cfg (bhOf opts cfg m))
    (hplain : ∀ x ∈ HeaderEnc.splitInclusive [] (headerValue cfg ts (bhOf opts cfg m) []), HeaderEnc.PlainWord x)
    (hsig : ∀ c ∈ sig, BodyEnc.b64Char c) :
    headerInput opts cfg ts m =
      ((DkimVerifier.select cfg.names ((m.signable opts cfg.names).map fld)).map DkimVerifier.relaxedField).flatten ++
      (DkimVerifier.relaxedField (DkimVerifier.deleteB (fld (HV.new sigName (headerValue cfg ts (bhOf opts cfg m) sig))))).take
        ((DkimVerifier.relaxedField (DkimVerifier.deleteB
          (fld (HV.new sigName (headerValue cfg ts (bhOf opts cfg m) sig))))).length - 2) :=
  Dkim.header_input_agrees_relaxed cfg ts m sig hc hu hw hcfg hplain hsig

/-- Signing touches nothing but the message-level header map… -/
theorem sign_keeps_body_and_part_headers (sigOf : Bytes → Bytes) (cfg : Cfg) (ts : Nat) (m : Msg) :
    (sign opts sigOf cfg ts m).body = m.body ∧ (sign opts sigOf cfg ts m).partHdr = m.partHdr := by
  simp [sign]

/-- …where it adds one field named DKIM-Signature after the existing ones (a message that has
    none yet): every other field, its position, its spelling and its folding are unchanged. -/
theorem sign_adds_one_field (sigOf : Bytes → Bytes) (cfg : Cfg) (ts : Nat) (m : Msg)
    (h : m.mh.any (fun f => eqName sigName f.name) = false) :
    ∃ f, f.name = sigName ∧ (sign opts sigOf cfg ts m).mh = m.mh ++ [f] ∧
      (sign opts sigOf cfg ts m).format =
        display m.mh ++ (f.name ++ [58, 32] ++ f.encoded ++ [13, 10]) ++ display m.partHdr ++ CRLF ++ m.body := by
  -- no field of that name yet: `insert_raw` appends
  obtain ⟨f, hf, hmh⟩ : ∃ f, f.name = sigName ∧ (sign opts sigOf cfg ts m).mh = m.mh ++ [f] :=
    ⟨_, rfl, if_neg (Bool.eq_false_iff.mp h)⟩
  refine ⟨f, hf, hmh, ?_⟩
  rw [Msg.format, hmh, display, List.map_append, List.flatten_append, List.map_singleton, List.flatten_singleton]
  rfl

/-- `h=` lists exactly the configured names, in order, colon separated (lower-cased under
    relaxed header canonicalization, where a verifier matches names case-insensitively). -/
theorem h_lists_signed_fields (cfg : Cfg) (ts : Nat) (bh sig : Bytes) :
    ∃ pre post, headerValue cfg ts bh sig = pre ++ str "; h=" ++ hList cfg ++ str "; bh=" ++ post ∧
      (cfg.hc = .simple → hList cfg = colonJoin cfg.names) ∧
      (cfg.hc = .relaxed → hList cfg = lowerName (colonJoin cfg.names)) :=
  -- `pre` is read off the definition: all that `headerValue` puts before `; h=`
  ⟨_, bh ++ str "; b=" ++ sig, by rw [headerValue, List.append_assoc _ bh, List.append_assoc _ (bh ++ _)],
    fun h => by rw [hList, h], fun h => by rw [hList, h]⟩

/-- The body hash input is a function of the canonical body only, so two bodies a verifier
    tells apart give different inputs to the signer's hash as well (with collision resistance:
    altering the body in a way canonicalization does not erase makes `bh=` mismatch). -/
theorem body_alteration_changes_input (cfg : Cfg) (m m' : Msg)
    (h : DkimVerifier.bodyCanon (isRelaxed cfg.bc) m.body ≠ DkimVerifier.bodyCanon (isRelaxed cfg.bc) m'.body) :
    bodyInput opts cfg m ≠ bodyInput opts cfg m' := by
  rw [body_hash_input_agrees, body_hash_input_agrees]; exact h

/-! Non-vacuity: concrete bodies through the reader's canonical forms. -/
example : DkimVerifier.relaxedBody (str "a \t b \r\n\r\n \r\n") = str "a b\r\n" := by decide +kernel
example : DkimVerifier.relaxedBody (str " \r\n\r\n") = [] := by decide +kernel
example : DkimVerifier.simpleBody (str "") = CRLF := by decide +kernel
example : DkimVerifier.simpleBody (str "x\r\n\r\n\r\n") = str "x\r\n" := by decide +kernel

/-! ### the recorded finding for `simple`, exhibited by the model -/

def wcfg : Cfg := ⟨str "ed25519", str "s", str "d.io", [str "From"], .simple, .simple⟩
def wbh : Bytes := List.replicate 43 65 ++ [61]
def wsig : Bytes := List.replicate 86 65 ++ [61, 61]

/-- finding `simple-header-canon-signature-field-refolded`, in the model: with `simple` header canonicalization the
    field the signer hashes (`… bh=…; b=` on one line) and the field a verifier reconstructs from the emitted one
    (folded before `b=<signature>`, value of `b=` deleted) differ -/
theorem simple_sig_field_witness :
    trimEnd (canonHeaders opts .simple [sigName] [HV.new (tag .simple sigName) (headerValue wcfg 0 wbh [])]) ≠
      (DkimVerifier.simpleField (DkimVerifier.deleteB (fld (HV.new sigName (headerValue wcfg 0 wbh wsig))))).take
        ((DkimVerifier.simpleField (DkimVerifier.deleteB (fld (HV.new sigName (headerValue wcfg 0 wbh wsig))))).length - 2) := by
  decide +kernel

/-- …whereas a signature short enough not to move the fold is reconstructed exactly (the difference above is the fold) -/
theorem simple_sig_field_short_agrees :
    trimEnd (canonHeaders opts .simple [sigName] [HV.new (tag .simple sigName) (headerValue wcfg 0 [65, 65, 65, 61] [])]) =
      (DkimVerifier.simpleField (DkimVerifier.deleteB (fld (HV.new sigName (headerValue wcfg 0 [65, 65, 65, 61] [65, 65, 61, 61]))))).take
        ((DkimVerifier.simpleField (DkimVerifier.deleteB (fld (HV.new sigName (headerValue wcfg 0 [65, 65, 65, 61] [65, 65, 61, 61]))))).length - 2) := by
  decide +kernel

end LV.C13
