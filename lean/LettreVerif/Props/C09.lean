import LettreVerif.Proofs.PoolClosed
/-!
# C09 — Shutdown closes every connection and is final, under any interleaving

Proved on `Model/PoolLts.lean`: once shut down the pool stays shut down whatever happens next;
`shutdown` closes everything that is parked; a check-out after it fails with the shut-down
result without opening or touching any connection; a connection returned after it is closed,
not parked.  That shutdown *returns promptly* and that the worker thread and all sockets are
gone after the last handle is dropped are runtime facts: checked on every forced schedule
(thread and socket census, schedule runs to completion), not expressible in the model.
-/
namespace LV.C09
open LV.PoolLts

/-- Shutdown is final: after it, no sequence of events brings the idle set back. -/
theorem shutdown_final (es : List Ev) (s s' : St) (h : s.idle = none) (hr : run s es = some s') : s'.idle = none :=
  shutdown_final_run es s s' h hr

/-- `shutdown` itself leaves the pool shut down, from any state. -/
theorem shutdown_shuts (s : St) : (shutdownLock s).idle = none := shutdownLock_idle s

/-- …and has closed every connection that was parked. -/
theorem shutdown_closes_parked (s : St) (l : List (Nat × Bool)) (h : s.idle = some l) (c : Nat) (x : Bool)
    (hm : (c, x) ∈ l) (hc : c < s.conns.length) : (getConn (shutdownLock s) c).closed = true :=
  PoolLts.shutdown_closes_parked s l h c x hm hc

/-- **Closed is for ever.** No transition of the pool — a probe, a transaction, a return, a maintenance pass, another
    shutdown, the passing of time — re-opens a closed connection. -/
theorem closed_stays_closed (es : List Ev) (s s' : St) (c : Nat) (hc : c < s.conns.length)
    (h : (getConn s c).closed = true) (hr : run s es = some s') :
    c < s'.conns.length ∧ (getConn s' c).closed = true :=
  ⟨lt_of_closed (closed_run h es hr), closed_run h es hr⟩

/-- Hence every connection that was parked when `shutdown` ran is closed in every later state, whatever happens next. -/
theorem parked_at_shutdown_closed_for_ever (s : St) (l : List (Nat × Bool)) (h : s.idle = some l) (c : Nat) (x : Bool)
    (hm : (c, x) ∈ l) (hc : c < s.conns.length) (es : List Ev) (s' : St) (hr : run (shutdownLock s) es = some s') :
    (getConn s' c).closed = true :=
  closed_run (PoolLts.shutdown_closes_parked s l h c x hm hc) es hr

/-- a parked connection that is healthy gets QUIT before the close -/
theorem abort_sends_quit (k : Conn) (h1 : k.closed = false) (h2 : k.broken = false) (h3 : k.peerAlive = true) :
    (abortConn k).hist = .eof :: .quit :: k.hist := abortConn_quit k h1 h2 h3

/-- **Every parked connection that is still healthy gets its QUIT, whatever happened to the others.** Shutdown of a
    pool whose idle list names each connection once (`one_place_at_a_time` of C07): a connection in the list that is open,
    not broken and whose peer is still there has seen exactly QUIT and the close added to its history — no matter how
    many of the connections before it in the list had been closed by the peer. -/
theorem shutdown_quits_every_live_parked (s : St) (l : List (Nat × Bool)) (h : s.idle = some l)
    (hn : (l.map (·.1)).Nodup) (c : Nat) (x : Bool) (hm : (c, x) ∈ l) (hc : c < s.conns.length)
    (h1 : (getConn s c).closed = false) (h2 : (getConn s c).broken = false) (h3 : (getConn s c).peerAlive = true) :
    (getConn (shutdownLock s) c).hist = .eof :: .quit :: (getConn s c).hist := by
  unfold shutdownLock
  simp only [h]
  exact (getConn_foldl_of_mem (·.1) abortConn l { s with idle := none } c hc hn (List.mem_map.mpr ⟨(c, x), hm, rfl⟩)).symm ▸
    abortConn_quit _ h1 h2 h3

/-- non-vacuity: three parked connections, the peer has closed the first; the other two still get QUIT -/
example :
    let s := (run (init false 3 3 1 1 [{ dropAfter := some 0 }, {}, {}]) [.maintScan, .maintPush, .maintPush, .maintPush, .shutdownLock]).getD (init false 1 0 0 0 [])
    (s.conns.map fun k => k.hist) = [[.kill, .ehlo], [.eof, .quit, .ehlo], [.eof, .quit, .ehlo]] := by
  decide +kernel

/-- A check-out after shutdown reports the shut-down error; no connection is opened, none is touched. -/
theorem send_after_shutdown_fails (s s' : St) (i : Nat) (h : s.idle = none) (hs : connectionLock s i = some s') :
    s'.conns = s.conns ∧ s'.plans = s.plans ∧
      ∃ t, s.senders[i]? = some t ∧
        s'.senders = s.senders.modify i (fun t => { t with next := t.next + 1, results := .shutdown :: t.results }) := by
  unfold connectionLock at hs
  split at hs
  · cases hs
  · rename_i t ht
    split at hs
    · cases hs
    · simp only [h] at hs
      cases hs
      exact ⟨rfl, rfl, t, ht, rfl⟩

/-- A connection returned after shutdown is closed, not parked. -/
theorem return_after_shutdown_closes (s : St) (c : Nat) (h : s.idle = none) (hc : c < s.conns.length) :
    (recycleConn s c).idle = none ∧ (getConn (recycleConn s c) c).closed = true := by
  refine ⟨recycleConn_shut s c h, ?_⟩
  simp only [recycleConn, h]
  rw [getConn_updConn_eq _ _ _ hc]
  exact (abortConn_closed _).1

example : (run (init false 1 0 1 2 []) [.maintScan, .connectionLock 0, .shutdownLock, .connectionLock 1, .recycleLock 0]).isSome = true := by
  decide +kernel

end LV.C09
