import LettreVerif.Model.Builder
import LettreVerif.Proofs.Builder
import LettreVerif.Proofs.Peg
/-!
# C01 — Built message's envelope carries exactly the sender and recipients given

`Builder.run` models the builder as the code has it (a *text* store: every call re-parses
the header's Display text); `Builder.specRun` is the typed store the property talks about.
Proved here: the refinement `builder_refines_spec` — for every sequence of builder calls, the text store gives
exactly what the typed store demands (same error, or same envelope and same Bcc decision; never a panic),
provided the addresses involved survive Display followed by parsing (`EmailsRoundTrip`, proved in `Proofs/Peg.lean`
for dot-atom / quoted local parts and dot-atom / literal domains: the part of C17's
mailbox round trip that concerns addresses; it is evaluated on every generated mailbox and list by the
correspondence check, and it is exactly what failed for quoted local parts, address literals and NUL /
CR / LF names before the `fix:` commits) — what the specification demands, stated outright (`spec_*`), and that Display
of a mailbox list never fails (`display_total`).
-/
namespace LV.C01
open LV LV.Builder LV.Mailbox

/-- Errors are exactly: no From; several From without Sender; no recipient (unless an envelope
    was supplied). -/
theorem spec_errors_exact (t : Typed) :
    (specBuild t = .error .missingFrom ↔ t.from_ = []) ∧
    (specBuild t = .error .tooManyFrom ↔ (t.from_.length > 1 ∧ t.sender = none)) ∧
    (specBuild t = .error .missingTo ↔
      (t.from_ ≠ [] ∧ ¬ (t.from_.length > 1 ∧ t.sender = none) ∧ t.envelope = none ∧ t.to ++ t.cc ++ t.bcc = [])) := by
  -- the five outcomes of `specBuild`; the hypotheses speak of `t.to ++ t.cc ++ t.bcc` as the statement does, so `simp` must
  -- neither split that append nor re-associate it
  rcases specBuild_cases t with ⟨hf, h⟩ | ⟨hf, hs, h⟩ | ⟨hf, hs, ⟨ev, he, h⟩ | ⟨he, hto, h⟩ | ⟨he, hto, h⟩⟩ <;>
    simp [*, -List.append_eq_nil_iff, -List.append_assoc]

/-- On success without an explicit envelope: the recipients are exactly the To, then Cc, then Bcc
    addresses in insertion order, the reverse path is the Sender address if one was set,
    otherwise the single From address. -/
theorem spec_envelope_exact (t : Typed) (ev : Env') (b : Bool) (h : specBuild t = .ok (ev, b))
    (hne : t.envelope = none) :
    ev.recipients = (t.to ++ t.cc ++ t.bcc).map (·.email) ∧
    ev.reversePath = (match t.sender with | some m => some m.email | none => t.from_.head?.map (·.email)) ∧
    b = (t.keepBcc && !t.bcc.isEmpty) := by
  rcases specBuild_cases t with ⟨_, h'⟩ | ⟨_, _, h'⟩ | ⟨_, _, ⟨_, he, _⟩ | ⟨_, _, h'⟩ | ⟨_, _, h'⟩⟩
  all_goals first | rw [hne] at he; cases he | (rw [h'] at h; cases h)
  exact ⟨rfl, rfl, rfl⟩

/-- An explicitly supplied envelope is used unchanged. -/
theorem spec_explicit_envelope (t : Typed) (e0 : Env') (h : t.envelope = some e0)
    (hf : t.from_ ≠ []) (hs : ¬ (t.from_.length > 1 ∧ t.sender = none)) :
    ∃ b, specBuild t = .ok (e0, b) := by
  rcases specBuild_cases t with ⟨hf', _⟩ | ⟨_, hs', _⟩ | ⟨_, _, ⟨ev, he, h'⟩ | ⟨he, _⟩ | ⟨he, _⟩⟩
  · exact absurd hf' hf
  · exact absurd hs' hs
  · exact ⟨_, Option.some.inj (h ▸ he) ▸ h'⟩
  all_goals rw [h] at he; cases he

/-- Each call adds exactly its mailbox to exactly its list; nothing is dropped, rewritten or
    duplicated by a later call. -/
theorem spec_calls_accumulate (t : Typed) (m : MBox) :
    (specStep t (.add .to m)).to = t.to ++ [m] ∧ (specStep t (.add .cc m)).cc = t.cc ++ [m] ∧
    (specStep t (.add .bcc m)).bcc = t.bcc ++ [m] ∧ (specStep t (.add .from_ m)).from_ = t.from_ ++ [m] ∧
    (specStep t (.add .to m)).cc = t.cc ∧ (specStep t (.add .to m)).bcc = t.bcc ∧
    (specStep t (.add .replyTo m)).to = t.to :=
  ⟨rfl, rfl, rfl, rfl, rfl, rfl, rfl⟩

/-- **The builder refines the typed store.** `G` is any class of addresses that survive Display → parse in every list
    and under every display name (`EmailsRoundTrip e G`). For every program whose mailboxes have addresses in `G`:
    the builder as the code has it does not panic, fails exactly when the specification says so and with the same
    error, and otherwise yields exactly the specified envelope (reverse path = Sender else the single From;
    recipients = To, Cc, Bcc addresses in insertion order; an explicit envelope unchanged) and Bcc decision. -/
theorem builder_refines_spec (e : Address.Env) (G : List Char → Prop) (hrt : EmailsRoundTrip e G) (prog : List Op)
    (hg : ∀ op ∈ prog, GoodOp G op) : run e prog = conv (specRun prog) :=
  build_refines (rep_run hrt prog _ _ (rep_init e G) hg)

/-- **The refinement without the hypothesis.** `EmailsRoundTrip` is a theorem (`Proofs/Peg.lean`: the grammar reads back
    what Display writes, for every name) for the class `GoodAddr` of addresses `local@domain` accepted by `Address::new`
    whose local part is a dot-atom of the grammar or a quoted string and whose domain is a dot-atom or a bracketed
    literal: for every program over such addresses — any names, any order of calls — the builder yields exactly the
    specified envelope, Bcc decision or error.  (Outside the class: only addresses the grammar's character classes do
    not cover although `Address::new` accepts them, e.g. a local part starting with U+00A0; checked per case.) -/
theorem builder_refines_spec_unconditional (e : Address.Env) (prog : List Op)
    (hg : ∀ op ∈ prog, GoodOp (LV.PegProof.GoodAddr e) op) : run e prog = conv (specRun prog) :=
  builder_refines_spec e _ (LV.PegProof.emails_round_trip e) prog hg

/-- non-vacuity of `builder_refines_spec_unconditional`: a program over addresses in the class, with a name that must be
    quoted and the same address used twice -/
example :
    let e : Address.Env := ⟨fun c => Peg.isAlpha c || Peg.isDigit c, fun _ => none, fun _ => false⟩
    let ab : List Char := ['a', '.', 'b', '@', 'c', '.', 'd']
    ∀ op ∈ ([.add .from_ ⟨none, ab⟩, .add .to ⟨some ['x', ',', '"', 'y'], ab⟩, .keepBcc, .add .bcc ⟨none, ab⟩] : List Op),
      GoodOp (LV.PegProof.GoodAddr e) op := by
  intro e ab op hop
  have hab : LV.PegProof.GoodAddr e ab :=
    LV.PegProof.addrClassB_sound _ ['a', '.', 'b'] ['c', '.', 'd'] (by decide +kernel) (by rfl)
  simp only [List.mem_cons, List.not_mem_nil, or_false] at hop
  rcases hop with h | h | h | h <;> subst h <;> first | exact hab | trivial

/-- Display of a mailbox or a mailbox list never fails (CR and LF of a name are written as quoted-pairs): the
    builder cannot panic in `header.display()`. -/
theorem display_total (l : List MBox) : ∃ t, showList l = some t := showList_some l

/-- non-vacuity: the model of the code and the specification agree on a program with a quoted
    local part, an address literal and a name containing NUL, CR and LF (which the code dropped
    or panicked on before the `fix:` commits). -/
example :
    let e : Address.Env := ⟨fun c => c.isAlphanum, fun d => some d, fun s => s == "127.0.0.1".toList⟩
    let prog : List Op := [.add .from_ ⟨none, "f@x.y".toList⟩, .add .to ⟨none, "\"a b\"@e.org".toList⟩,
      .add .to ⟨some ['a', Char.ofNat 0, '\r', '\n', 'b'], "u@[127.0.0.1]".toList⟩, .add .cc ⟨some "N".toList, "c@x.y".toList⟩]
    run e prog = .ok ⟨some "f@x.y".toList, ["\"a b\"@e.org".toList, "u@[127.0.0.1]".toList, "c@x.y".toList]⟩ false := by
  decide +kernel

end LV.C01
