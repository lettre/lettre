import LettreVerif.Proofs.HeaderEnc
import LettreVerif.Spec.Rfc2047Dec
import LettreVerif.Proofs.C12Roundtrip
import LettreVerif.Proofs.Wire
import LettreVerif.Proofs.Utf8Runs
/-!
# C12 — Header text survives encoding: a conforming reader recovers the exact string

Proved here: `unstructured_roundtrip` — for every text (every Rust string: no four continuation octets in a row),
whatever the length of the header name, an RFC 5322 + RFC 2047 reader (`Spec/Rfc2047Dec.lean`: unfold, split at
linear white space, decode `=?utf-8?b?…?=` tokens of at most 75 characters, drop white space between two adjacent
encoded-words) applied to the encoded value gives back exactly the text, inner and trailing spaces included.
The proof has a reader side (`Proofs/Rfc2047Dec.lean`) and a writer side (`Proofs/Rfc2047Enc.lean`), joined by an invariant
over `HeaderValueEncoder::format`'s loop (`Proofs/C12Roundtrip.lean`). Also:
every encoded-word the encoder can emit — it carries at most 45 octets (`word_room_le_45`) — has at most 75 characters and
decodes to exactly the octets it carries (`encoded_word_roundtrip`; that these are whole characters is the model's
`truncBoundary` and no theorem here), and the pieces an encoded value is made of are well formed (`C02.value_wf`).

Structured fields (`Proofs/Wire.lean`), read by the reader of `Spec/StructuredDec.lean`: `display_name_roundtrip` and
`mailbox_header_read_back` (`Model/MailboxEnc.lean`), `file_name_roundtrip` (`Model/Rfc2231Enc.lean`: first-line, continuation
and percent-encoded forms). Their statements use the writer's invariant `Inv` (`Proofs/HeaderEnc.lean`), `W.view`, what a
reader has once it has unfolded what the writer wrote (`Proofs/Rfc2047Enc.lean`), and `Shown` / `ItemOf`, the unfolded text of
a mailbox list (`Proofs/Wire.lean`).
-/
namespace LV.C12
open LV LV.HeaderEnc LV.Rfc2047Dec

theorem enc_length : ∀ (x : Bytes), (Base64.enc x).length = 4 * ((x.length + 2) / 3) := BodyEnc.enc_len

/-- An encoded-word carrying at most 45 octets (what `rfc2047::encode` puts into one) is at most
    75 characters long, has the `=?utf-8?b?…?=` shape, and decodes to exactly its word. -/
theorem encoded_word_roundtrip (word : Bytes) (hne : word ≠ []) (hl : word.length ≤ 45) :
    (encPrefix ++ Base64.enc word ++ encSuffix).length ≤ 75 ∧
    encWord? (encPrefix ++ Base64.enc word ++ encSuffix) = some word := by
  refine ⟨?_, encw_dec word hl⟩
  rw [List.length_append, List.length_append]
  exact Nat.le_trans (Nat.add_le_add_right (Nat.add_le_add_left (enc_len_le word hl) _) _) (by decide)

/-- The room `rfc2047::encode` computes for the text of the next encoded-word (`HeaderEnc.room`, written out) is at most
    45 octets, so that `encoded_word_roundtrip` applies to every encoded-word it writes. -/
theorem word_room_le_45 (lineLen : Nat) : (maxLineLen - (10 + 2 + lineLen + 2)) / 4 * 3 ≤ 45 :=
  room_le lineLen

/-- **Header text survives encoding.** For every text `raw` (a Rust string never has four UTF-8 continuation octets
    in a row) and every header-name length `n` (it shifts the fold column), the reader recovers exactly `raw`. -/
theorem unstructured_roundtrip (n : Nat) (raw : Bytes) (h : ContRunsLe3 raw) :
    Rfc2047Dec.decode (encodeValue opts n raw) = raw :=
  C12Proof.decode_encodeValue n raw h

/-- non-vacuity: the hypothesis holds of a text with words that need encoding next to words that do not, two spaces
    between encoded words, a literal `=?…?=` token and a trailing space -/
example : ContRunsLe3 (str "né  né =?x?= a ") ∧
    Rfc2047Dec.decode (encodeValue opts 7 (str "né  né =?x?= a ")) = str "né  né =?x?= a " := by
  -- `str s` is the UTF-8 encoding of the characters of `s`
  have h : ∀ s : String, ContRunsLe3 (str s) := fun s => by
    rw [show str s = encodeUtf8 s.toList by rw [encodeUtf8, String.ofList_toList]; rfl]
    exact Utf8Runs.contRuns_str _
  exact ⟨h _, unstructured_roundtrip _ _ (h _)⟩

/-- **Header text survives encoding — every Rust string, no hypothesis.** A Rust `str` is the UTF-8 encoding of a
    sequence of scalar values (`List Char`); its octets never have four continuation octets in a row
    (`Proofs/Utf8Runs.lean`, over Lean's own UTF-8 encoder): for every header name length the reader recovers exactly the
    octets of the string. -/
theorem unstructured_roundtrip_every_string (n : Nat) (text : List Char) :
    Rfc2047Dec.decode (encodeValue opts n (encodeUtf8 text)) = encodeUtf8 text :=
  unstructured_roundtrip n _ (Utf8Runs.contRuns_str text)

/-! ## structured fields: display names and file names -/

open LV.MailboxEnc LV.StructuredDec in
/-- **A display name on the wire is shown as the name.** Whatever the name (any Rust string) and wherever on the line
    the writer stands, what `quoted_string::encode` appends — a plain atom, a quoted string with quoted-pairs (folded
    inside or not), or a run of encoded-words — is, once unfolded, a phrase that an RFC 5322 / RFC 2047 reader shows as
    exactly the name. -/
theorem display_name_roundtrip (w : W) (hi : Inv w) (name : Bytes) (hu : ContRunsLe3 name) :
    ∃ R, (quotedStringEncode w name).view = w.view ++ R ∧ phraseDecode R = some name :=
  name_wire w hi name hu

open LV.MailboxEnc LV.StructuredDec in
/-- the same for every Rust string as the name, with no hypothesis on it -/
theorem display_name_roundtrip_every_string (w : W) (hi : Inv w) (name : List Char) :
    ∃ R, (quotedStringEncode w (encodeUtf8 name)).view = w.view ++ R ∧ phraseDecode R = some (encodeUtf8 name) :=
  display_name_roundtrip w hi _ (Utf8Runs.contRuns_str name)

open LV.MailboxEnc in
/-- **A mailbox header on the wire, read back.** For every list of mailboxes (any names, printable-ASCII addresses):
    unfolded, the header value is the items separated by `, `; each item is the address, or a phrase that a reader shows
    as exactly the name, one blank, and the address in angle brackets. -/
theorem mailbox_header_read_back (nameLen : Nat) (ms : List (Option Bytes × Bytes))
    (hm : ∀ m ∈ ms, (∀ n, m.1 = some n → ContRunsLe3 n) ∧ Plain m.2) :
    Shown ms (HeaderReader.unfold (headerValue nameLen ms)) :=
  mailboxes_wire nameLen ms hm

open LV.Rfc2231Enc LV.StructuredDec in
/-- **Every file name is read back.** For every file name (any Rust string of less than 10^20 octets: printable or not,
    quotes, backslashes, CR, LF, NUL, any Unicode) and every `kind` that is printable without blank, quote or semicolon
    (`attachment`, `inline`): an RFC 2231 / RFC 5322 reader of the Content-Disposition value finds exactly the name. (The
    proof uses neither `hk32` nor `hkne`: `Rfc2231Enc.filename_read_back` is the statement without them.) -/
theorem file_name_roundtrip (kind name : Bytes) (hk : Plain kind) (hk32 : ∀ b ∈ kind, b ≠ 32) (hkne : kind ≠ [])
    (hks : ∀ b ∈ kind, b ≠ 34 ∧ b ≠ 59) (hn : name.length < 10 ^ 20) :
    paramDecode filenameKey (HeaderReader.unfold (cdispValue kind name)) = some name :=
  filename_roundtrip kind name hk hk32 hkne hks hn

open LV.Rfc2231Enc LV.StructuredDec in
/-- the two kinds the API offers: `ContentDisposition::attachment(name)` and `ContentDisposition::inline_with_name(name)` -/
theorem attachment_and_inline_file_names (name : Bytes) (hn : name.length < 10 ^ 20) :
    paramDecode filenameKey (HeaderReader.unfold (cdispValue [97, 116, 116, 97, 99, 104, 109, 101, 110, 116] name)) = some name ∧
    paramDecode filenameKey (HeaderReader.unfold (cdispValue [105, 110, 108, 105, 110, 101] name)) = some name :=
  ⟨filename_read_back _ name (by decide) (by decide) hn, filename_read_back _ name (by decide) (by decide) hn⟩

open LV.Rfc2231Enc LV.StructuredDec in
/-- non-vacuity: a short quoted name, a long printable one (continuations) and a non-ASCII one (percent-encoding), evaluated -/
example :
    paramDecode filenameKey (HeaderReader.unfold (cdispValue (str "attachment") (str "a \"b\".txt"))) = some (str "a \"b\".txt") ∧
    paramDecode filenameKey (HeaderReader.unfold (cdispValue (str "inline") (List.replicate 150 120))) = some (List.replicate 150 120) ∧
    paramDecode filenameKey (HeaderReader.unfold (cdispValue (str "attachment") (str "résumé 日本.pdf"))) = some (str "résumé 日本.pdf") := by
  decide +kernel

end LV.C12
