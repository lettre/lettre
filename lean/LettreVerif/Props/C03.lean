import LettreVerif.Proofs.C03
/-!
# C03 — SMTP DATA phase is transparent

Property theorems only. `wire m` is everything the client writes for message `m`
(`ClientCodec::encode` from `StartOfNewLine`, then `CRLF . CRLF`); `serverRun` is the
RFC 5321 §4.5.2 receiver of `Spec/DataServer.lean`.  Proved here, for every message: the receiver reconstructs it, the
end marker is the last five octets and nothing before the last octet ends the phase, writing in several frames changes
nothing, and the size at most doubles.
-/
namespace LV.C03
open LV.Codec LV.DataServer

/-- The server reconstructs exactly the message followed by one CRLF and is then done. -/
theorem transparency (m : Bytes) : serverRun (wire m) = (.done, m ++ CRLF) :=
  transparency_gen .sol m

/-- The end of the DATA phase is not recognised before the last octet sent: no proper prefix
    of what is written puts the server in state `done` — so no content can end the phase
    early and no content octet can be read as a command. -/
theorem no_early_end (m p : Bytes) (hp : p <+: wire m) (hne : p ≠ wire m) :
    (serverRun p).1 ≠ .done :=
  no_early_end_gen .sol m p hp hne

/-- The marker is the last five octets sent. -/
theorem marker_last (m : Bytes) : ∃ pre, wire m = pre ++ [13, 10, 46, 13, 10] :=
  ⟨encode .sol m, rfl⟩

/-- The marker occurs exactly once: wherever `CRLF . CRLF` occurs in what is written, nothing
    follows it. (Together with `marker_last`: its only occurrence is the last five octets.) -/
theorem marker_once (m pre suf : Bytes) (h : wire m = pre ++ terminator ++ suf) : suf = [] := by
  cases suf with
  | nil => rfl
  | cons a t =>
    -- otherwise `pre ++ terminator` is a proper prefix that ends the phase
    refine absurd ?_ (no_early_end m (pre ++ terminator) ⟨a :: t, h.symm⟩ ?_)
    · simp only [serverRun, decode_append]; exact term_done_any _
    · exact fun e => List.cons_ne_nil a t ((List.append_right_eq_self (xs := pre ++ terminator)).mp (e.trans h).symm)

/-- Writing a message in several frames through one codec equals writing it in one piece. -/
theorem frames_assoc (fs : List Bytes) : encodeFrames .sol fs = encode .sol fs.flatten :=
  frames_flatten .sol fs

/-- Stuffing at most doubles the content and never removes an octet. -/
theorem stuffing_bounds (m : Bytes) :
    m.length ≤ (encode .sol m).length ∧ (encode .sol m).length ≤ 2 * m.length :=
  encode_len .sol m

/-- non-vacuity: a message with a leading dot, a dot after CRLF, a bare CR and an embedded
    `CRLF . CRLF` is reconstructed; its wire form has the dots doubled. -/
example :
    let m : Bytes := [46, 97, 13, 10, 46, 13, 10, 13, 46, 10, 46]
    wire m = [46, 46, 97, 13, 10, 46, 46, 13, 10, 13, 46, 10, 46, 13, 10, 46, 13, 10]
      ∧ serverRun (wire m) = (.done, m ++ CRLF) := by decide +kernel

/-- non-vacuity of `marker_once`: the hypothesis is met (with `suf = []`) by a message that
    itself contains `CRLF . CRLF`; the stuffed copy inside is not an occurrence. -/
example : wire [97, 13, 10, 46, 13, 10] = [97, 13, 10, 46, 46, 13, 10] ++ terminator ++ [] := by
  decide +kernel

end LV.C03
