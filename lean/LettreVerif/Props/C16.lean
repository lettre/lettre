import LettreVerif.Proofs.C16
import LettreVerif.Model.Builder
/-!
# C16 — Only safe, well-formed addresses are accepted, and they round-trip exactly

`parse` models `Address::from_str` / `TryFrom<String>` / string deserialisation, `new` models
`Address::new` / `TryFrom<(U, D)>` / `{user, domain}` deserialisation.  `EnvOk e` are the
assumptions A1–A3 on `char::is_alphanumeric`, `idna::domain_to_ascii` and `IpAddr` parsing.  Proved here: an accepted
address is safe and is the string that was parsed; `new` and `parse` accept the same; MAIL FROM / RCPT TO lines made
from it have one CRLF, at the end; the sendmail argument vector keeps the recipients behind `--`; an envelope, given or
derived from the header map, has a recipient.
-/
namespace LV.C16
open LV LV.Address LV.AddressSafe

/-- The reported user and domain rejoin to the original string; `Display` prints it. -/
theorem rejoin (e : Env) (s : List Char) (a : Addr) (h : parse e s = .ok a) : a.serialized = s :=
  (split_rejoin [] s _ _ (parse_ok_iff.mp h).1).symm

/-- An accepted address contains no control character (CR, LF, NUL, HTAB, …), no `@` in its
    domain, and space / angle brackets / `@` only inside a quoted local part. -/
theorem accepted_safe (e : Env) (he : EnvOk e) (s : List Char) (a : Addr) (h : parse e s = .ok a) :
    safe a.user a.domain = true := by
  obtain ⟨hu, hd, _⟩ := new_ok_iff.mp (parse_ok_iff.mp h).2
  simp only [safe, Bool.and_eq_true]
  exact ⟨List.all_eq_true.mpr (domain_good e he _ hd), user_safe e he _ hu⟩

/-- `new(user, domain)` accepts only what parsing `user@domain` accepts, with the same parts. -/
theorem new_then_parse (e : Env) (he : EnvOk e) (u d : List Char) (a : Addr) (h : new e u d = .ok a) :
    a = ⟨u, d⟩ ∧ parse e (u ++ '@' :: d) = .ok a := by
  obtain ⟨_, hd, rfl⟩ := new_ok_iff.mp h
  -- the domain has no `@`, so the last `@` is the one between the two parts
  exact ⟨rfl, parse_ok_iff.mpr ⟨split_join [] u d (no_at_of_good d (domain_good e he d hd)), h⟩⟩

/-- Conversely, if parsing `user@domain` accepts it as that user and that domain, `new` accepts.
    (When `domain` contains an `@`, `user@domain` may parse with a different split —
    `("\"a", "b\"@c.d")` — and `new` rightly refuses the pair.) -/
theorem parse_then_new (e : Env) (u d : List Char) (h : parse e (u ++ '@' :: d) = .ok ⟨u, d⟩) :
    new e u d = .ok ⟨u, d⟩ := (parse_ok_iff.mp h).2

/-- Displaying an accepted address and parsing it again gives an equal value. -/
theorem display_parse (e : Env) (s : List Char) (a : Addr) (h : parse e s = .ok a) :
    parse e a.serialized = .ok a := by rw [rejoin e s a h]; exact h

theorem serialized_no_crlf (e : Env) (he : EnvOk e) (s : List Char) (a : Addr) (h : parse e s = .ok a) :
    ∀ c ∈ a.serialized, c ≠ '\r' ∧ c ≠ '\n' := by
  intro c hc
  have := safe_no_control (accepted_safe e he s a h) c hc
  constructor <;> (rintro rfl; revert this; decide)

/-- MAIL FROM / RCPT TO lines rendered from accepted addresses contain exactly one CRLF, at
    the end: an address cannot inject a command. -/
theorem command_lines_single_crlf (e : Env) (he : EnvOk e) (s : List Char) (a : Addr)
    (h : parse e s = .ok a) :
    singleCrlfLine (rcptLine a) = true ∧ singleCrlfLine (mailLine (some a)) = true ∧
    singleCrlfLine (mailLine none) = true := by
  have hn := serialized_no_crlf e he s a h
  have key (pre : List Char) (hpre : ∀ c ∈ pre, c ≠ '\r' ∧ c ≠ '\n') : singleCrlfLine (pre ++ a.serialized ++ lineEnd) = true :=
    singleCrlfLine_lineEnd _ fun c hc => (List.mem_append.mp hc).elim (hpre c) (hn c)
  exact ⟨key rcptPrefix (by decide), key mailPrefix (by decide), by decide⟩

/-- The sendmail argument vector is `-i`, optionally `-f sender`, `--`, then exactly the
    recipients, one element each: a recipient can never be read as an option. -/
theorem argv_safe (f : Option Addr) (to : List Addr) :
    ∃ pre, sendmailArgv f to = pre ++ [dashDash] ++ to.map Addr.serialized ∧
      (pre = [optI] ∨ ∃ a, f = some a ∧ pre = [optI, optF, a.serialized]) := by
  cases f with
  | none => exact ⟨[optI], rfl, Or.inl rfl⟩
  | some a => exact ⟨[optI, optF, a.serialized], rfl, Or.inr ⟨a, rfl, rfl⟩⟩

/-- An envelope never has an empty recipient list. -/
theorem envelope_nonempty (f : Option Addr) (to : List Addr) :
    (envelopeNew f to = none ↔ to = []) ∧ (∀ r, envelopeNew f to = some r → r.2 ≠ []) := by
  cases to with
  | nil => simp [envelopeNew]
  | cons x xs => simp [envelopeNew]

/-- … also when the envelope is derived from the header map (`Envelope::try_from(&Headers)`, behind every message builder):
    whatever the stored headers are — a recipient field may be present with an empty list — an envelope that is produced
    has a recipient, and it is refused with `MissingTo` exactly when To, Cc and Bcc together hold no address. (Round 7 of the
    seeded changes: C16/m19 tested the presence of a header instead; the `envhdrs` cases exercise this on the real code.) -/
theorem header_envelope_nonempty (e : Env) (s : Builder.St) :
    (∀ ev, s.headerEnvelope e = .ok ev → ev.recipients ≠ []) ∧
    (s.headerEnvelope e = .error .missingTo ↔
      (s.reversePath e ≠ none ∧ s.addrs e .to ++ s.addrs e .cc ++ s.addrs e .bcc = [])) := by
  unfold Builder.St.headerEnvelope
  cases s.reversePath e with
  | none => simp
  | some rp => cases s.addrs e .to ++ s.addrs e .cc ++ s.addrs e .bcc <;> simp

/-- non-vacuity: an environment satisfying A1–A3 exists and accepts a quoted local part with a
    space and an IPv6 literal. -/
def demoEnv : Env where
  isAlnum c := (48 ≤ c.toNat && c.toNat ≤ 57) || (97 ≤ c.toNat && c.toNat ≤ 122)
  idna _ := none
  isIp s := s == [':', ':', '1']

example : parse demoEnv ['"', 'a', ' ', 'b', '"', '@', '[', 'I', 'P', 'v', '6', ':', ':', ':', '1', ']'] =
    .ok ⟨['"', 'a', ' ', 'b', '"'], ['[', 'I', 'P', 'v', '6', ':', ':', ':', '1', ']']⟩ := by rfl

example : parse demoEnv ['a', '@', '[', '>', ']'] = .error .invalidDomain := by rfl

end LV.C16
