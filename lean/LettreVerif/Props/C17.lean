import LettreVerif.Proofs.Headers
import LettreVerif.Model.Builder
import LettreVerif.Proofs.Date
import LettreVerif.Proofs.Peg
import LettreVerif.Proofs.DateText
import LettreVerif.Proofs.TypedHdr
/-!
# C17 — Mailboxes and typed headers read back equal to what was stored

Proved here: the header map part (lookup, replacement and removal are case-insensitive, one entry per name); the Date
round trip for every instant, in arithmetic (`date_roundtrip`; the calendar fields are in range and the weekday is the
right one) and as text up to year 9999 (`date_header_roundtrip`: what `Display` writes, `Date::parse` reads back to the
same second); `MimeVersion` and `ContentTransferEncoding` (display then parse gives the value back, an accepted version
fits two octets, only the five spellings are accepted as an encoding); and the **mailbox grammar round trip**: for
every mailbox whose address is in the class `GoodAddr` and *every* display name, what `Display` writes is parsed back by
the PEG transcription of the grammar to an equal mailbox, the name up to `normName` (`mailbox_roundtrip`,
`display_name_is_one_phrase`), and a displayed list to equal mailboxes in the same order (`mailbox_list_roundtrip`).
What is *not* proved and is tied by the correspondence check only: addresses outside the class (those whose characters
the grammar's classes do not cover although `Address::new` accepts them); the check reports for every real mailbox
whether its address is in the proved class.  The model's `show` and the PEG transcription are each compared with the
code, and the property itself — display then parse gives an equal value — is evaluated on every generated value.
-/
namespace LV.C17
open LV LV.Headers

/-- What was stored under a name is what is found under that name, whatever the letter case
    used for the lookup.  (`hu` is not needed: `find_insertRaw` holds of any header list.) -/
theorem get_after_set (hs : List HV) (v : HV) (n : Bytes) (hn : eqName n v.name = true) (hu : Unique hs) :
    find (insertRaw hs v) n = some v :=
  find_insertRaw hs v n hn

/-- Setting a header never creates a second field with that name, and removal removes it. -/
theorem one_entry_per_name (hs : List HV) (v : HV) (n : Bytes) (hu : Unique hs) :
    Unique (insertRaw hs v) ∧ Unique (removeRaw n hs) ∧ find (removeRaw n hs) n = none :=
  ⟨insertRaw_unique hs v hu, removeRaw_unique n hs hu, removeRaw_gone n hs hu⟩

/-- Header-name comparison ignores ASCII letter case and nothing else. -/
theorem name_case_insensitive : eqName (str "Subject") (str "sUBJECT") = true ∧ eqName (str "To") (str "Cc") = false := by
  decide +kernel

/-- The time of day is exact, for every instant.  (The zone is not computed: `Date.render` and `DateText.renderB` end
    in the literal ` +0000`, which the `example` below and `date_header_roundtrip` go through.) -/
theorem date_time_of_day (t : Nat) :
    (Date.civil t).sec = t % 86400 % 60 ∧ (Date.civil t).min = t % 86400 % 3600 / 60 ∧
    (Date.civil t).hour = t % 86400 / 3600 :=
  (DateProof.civil_spec t).time

/-- **Date round trip, every instant**: the civil fields computed for `t` seconds after 1970-01-01T00:00:00Z
    (`HttpDate::from(SystemTime)`, what the header prints) are mapped back to exactly `t`
    (`SystemTime::from(HttpDate)`, what `Headers::get::<Date>()` returns after parsing).  No bound on `t`:
    the 400-year cycle argument covers every year, not only 1970..9999. -/
theorem date_roundtrip (t : Nat) : Date.toSecs (Date.civil t) = t := DateProof.toSecs_civil t

/-- **The Date header is read back to the second, text included.** For every instant `t` up to the end of year 9999:
    the header value lettre writes (`Display for HttpDate`, `GMT` replaced by `+0000`: `Model/DateText.lean`) is accepted
    by `Date::parse` (`+0000` back to `GMT`, `parse_imf_fixdate`, `is_valid`) and gives back the civil fields of `t`,
    which `SystemTime::from` maps to exactly `t`. -/
theorem date_header_roundtrip (t : Nat) (h : (Date.civil t).year ≤ 9999) :
    (DateText.parseHeader (DateText.renderB (Date.civil t))).map Date.toSecs = some t := by
  rw [DateText.parseHeader_renderB _ (DateText.isValid_civil t h), Option.map_some, date_roundtrip]

theorem date_year_ge_1970 (t : Nat) : 1970 ≤ (Date.civil t).year := (DateProof.civil_spec t).year

/-- distinct instants never print the same civil fields -/
theorem date_injective (t u : Nat) (h : Date.civil t = Date.civil u) : t = u := by
  rw [← date_roundtrip t, ← date_roundtrip u, h]

/-- the printed fields are a calendar date: month 1..12, day 1..31, and the weekday is the day number's
    (1970-01-01 was a Thursday; 1 = Monday … 7 = Sunday) -/
theorem date_fields_in_range (t : Nat) :
    1 ≤ (Date.civil t).mon ∧ (Date.civil t).mon ≤ 12 ∧ 1 ≤ (Date.civil t).day ∧ (Date.civil t).day ≤ 31 ∧
    (Date.civil t).wday = (t / 86400 + 3) % 7 + 1 :=
  have h := DateProof.civil_spec t
  ⟨h.mon.1, h.mon.2, h.day.1, h.day.2, h.wday⟩

/-- non-vacuity / regression: a few instants through the date model, incl. a leap day and the
    last representable second. -/
example : Date.render (Date.civil 784887151) = "Tue, 15 Nov 1994 08:12:31 +0000" ∧
    Date.toSecs (Date.civil 951782400) = 951782400 ∧ Date.render (Date.civil 951782400) = "Tue, 29 Feb 2000 00:00:00 +0000" ∧
    Date.toSecs (Date.civil 253402300799) = 253402300799 := by decide +kernel

/-! ## the mailbox grammar -/
open LV.Mailbox LV.PegProof in
/-- **Display then parse returns an equal mailbox, whatever the name.** For every mailbox whose address is in the
    class (`local@domain`, the local part a dot-atom or a quoted string, the domain a dot-atom or a literal, accepted by
    `Address::new`): `Display` does not fail,
    and `FromStr` (the grammar, then `Address::new` on the two parts) reads the text back as a mailbox with exactly
    that address and a name equal to the stored one up to `normName` (surrounding white space, the length of runs of
    blanks, an empty name = no name).  The name is arbitrary: any characters, including quotes, backslashes, commas,
    angle brackets, CR, LF and NUL. -/
theorem mailbox_roundtrip (e : Address.Env) (m : MBox) (hg : GoodAddr e m.email) :
    ∃ t m', show1 m = some t ∧ parse1 e t = some m' ∧ m'.email = m.email ∧ normName m'.name = normName m.name := by
  obtain ⟨t, ht⟩ := LV.Builder.showList_some [m]
  simp only [showList] at ht
  obtain ⟨m', h1, h2, h3⟩ := parse1_show1 e m t hg ht
  exact ⟨t, m', ht, h1, h2, h3⟩

open LV.Mailbox LV.PegProof in
/-- **A displayed list parses back to equal mailboxes in the same order** — no mailbox lost, duplicated, merged
    with a neighbour or reordered, whatever the names (a name containing `,` or `<` is written quoted and is read as
    one phrase). -/
theorem mailbox_list_roundtrip (e : Address.Env) (l : List MBox) (hne : l ≠ []) (hg : ∀ m ∈ l, GoodAddr e m.email) :
    ∃ t l', showList l = some t ∧ parseList e t = some l' ∧ l'.map (·.email) = l.map (·.email) ∧
      l'.map (fun m => normName m.name) = l.map (fun m => normName m.name) := by
  obtain ⟨t, ht⟩ := LV.Builder.showList_some l
  obtain ⟨l', h1, h2, h3⟩ := parseList_showList e l t hne hg ht
  exact ⟨t, l', ht, h1, h2, h3⟩

open LV.Mailbox LV.PegProof LV.Peg in
/-- **Every display name is written as text the grammar reads as one phrase**, up to the ` <` before the address:
    atoms when every character allows it, a quoted string with quoted-pairs otherwise; what is read is the name with
    each run of SP / HTAB reduced to its first character (`cfg`). -/
theorem display_name_is_one_phrase (n rest : List Char) (hne : trim n ≠ []) :
    ∃ t, writeWord true (trim n) = some t ∧
      phrase opts (t ++ ' ' :: '<' :: rest) = some (cfg false (trim n), ' ' :: '<' :: rest) :=
  display_name_read_back n rest hne

open LV.Mailbox LV.PegProof in
/-- the decidable form of the class is sound: what the correspondence check counts as "in the class" is -/
theorem address_class_sound (e : Address.Env) (u d : List Char) (h : addrClassB u d = true)
    (hnew : Address.new e u d = .ok ⟨u, d⟩) : GoodAddr e (u ++ '@' :: d) := addrClassB_sound e u d h hnew

open LV.Mailbox LV.PegProof LV.Peg in
/-- non-vacuity: a quoted local part at an address literal is in the class, and the round trip evaluated on it -/
example :
    let e : Address.Env := ⟨fun c => isAlpha c || isDigit c, fun _ => none, fun s => s == ['1', '.', '2', '.', '3', '.', '4']⟩
    let a : List Char := ['"', 'a', ' ', '\\', '"', 'b', '"', '@', '[', '1', '.', '2', '.', '3', '.', '4', ']']
    GoodAddr e a ∧ (show1 ⟨some ['N', ',', ' ', 'M'], a⟩).bind (parse1 e) = some ⟨some ['N', ',', ' ', 'M'], a⟩ :=
  ⟨addrClassB_sound _ ['"', 'a', ' ', '\\', '"', 'b', '"'] ['[', '1', '.', '2', '.', '3', '.', '4', ']'] (by decide +kernel) (by rfl), by decide +kernel⟩

open LV.Mailbox LV.PegProof LV.Peg in
/-- non-vacuity: a mailbox in the class with a name that needs quoting; the round trip evaluated -/
example :
    let e : Address.Env := ⟨fun c => isAlpha c || isDigit c, fun _ => none, fun _ => false⟩
    GoodAddr e ['a', '.', 'b', '@', 'c', '.', 'd'] ∧
    (show1 ⟨some ['x', ',', '"', 'y'], ['a', '.', 'b', '@', 'c', '.', 'd']⟩).bind (parse1 e) =
      some ⟨some ['x', ',', '"', 'y'], ['a', '.', 'b', '@', 'c', '.', 'd']⟩ :=
  ⟨addrClassB_sound _ ['a', '.', 'b'] ['c', '.', 'd'] (by decide +kernel) (by rfl), by decide +kernel⟩

/-! ## MIME-Version and Content-Transfer-Encoding (`Model/TypedHdr.lean`) -/

/-- **Every MIME version reads back**: for all 256 × 256 values, the text `MimeVersion::display` writes
    (`{major}.{minor}`) is parsed by `MimeVersion::parse` (`split('.')`, `u8::from_str` on the first two pieces) to the
    same pair. -/
theorem mime_version_roundtrip (a b : Nat) (ha : a < 256) (hb : b < 256) :
    TypedHdr.mimeParse (TypedHdr.mimeDisplay a b) = some (a, b) := TypedHdr.mime_roundtrip a b ha hb

/-- whatever text is parsed, an accepted version is a pair of octets (no wrap-around: `256.0` is refused) -/
theorem mime_version_parse_in_range (s : Bytes) (a b : Nat) (h : TypedHdr.mimeParse s = some (a, b)) :
    a < 256 ∧ b < 256 := TypedHdr.mime_parse_range s a b h

/-- **Every Content-Transfer-Encoding reads back.**  Hence the five spellings are pairwise different
    (`TypedHdr.cte_display_injective`), so two different stored values never read back as the same one. -/
theorem cte_roundtrip (c : TypedHdr.Cte) : TypedHdr.cteParse (TypedHdr.cteDisplay c) = some c := TypedHdr.cte_roundtrip c

/-- The parser accepts nothing but the five spellings `display` writes, compared exactly (letter case included). -/
theorem cte_parse_exact (s : Bytes) (c : TypedHdr.Cte) (h : TypedHdr.cteParse s = some c) : s = TypedHdr.cteDisplay c :=
  TypedHdr.cte_parse_exact s c h

/-- non-vacuity and the edges of `u8::from_str`: a leading `+` and leading zeros are read, a third piece is ignored,
    256 / an empty piece / a sign alone / a blank are refused; the encoding is compared exactly (letter case included) -/
example : TypedHdr.mimeDisplay 1 0 = str "1.0" ∧ TypedHdr.mimeDisplay 255 17 = str "255.17" ∧
    TypedHdr.mimeParse (str "+1.007.9") = some (1, 7) ∧ TypedHdr.mimeParse (str "256.0") = none ∧
    TypedHdr.mimeParse (str "1.") = none ∧ TypedHdr.mimeParse (str "1") = none ∧ TypedHdr.mimeParse (str "+.1") = none ∧
    TypedHdr.mimeParse (str " 1.0") = none ∧ TypedHdr.cteParse (str "base64") = some .base64 ∧
    TypedHdr.cteParse (str "Base64") = none := by decide +kernel

end LV.C17
