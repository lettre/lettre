import LettreVerif.Proofs.Tls
/-!
# C06 — Required/wrapper TLS never leaks credentials or mail in clear; no downgrade

`sendOnce` = `SmtpClient::connection` (connect, TLS decision, authentication) followed by one
send and the connection being closed, over an arbitrary clear script and an arbitrary script
inside TLS; `cfg.hs` is the outcome of the TLS handshake with the configured connector (an
input: certificate and host-name verification are native-tls/OpenSSL's, see `switch_table`
and the correspondence check).  `Out.clear` is the connection as it was used in clear.
-/
namespace LV.C06
open LV LV.Client LV.Tls LV.Response

/-- With `required`, whatever the server does in clear or inside TLS and whether or not the
    handshake succeeds, the only units ever written in clear are EHLO, STARTTLS and QUIT:
    no AUTH line, credential, MAIL, RCPT, DATA or content octet. -/
theorem required_no_clear_leak (cfg : Cfg) (cs ts : List Step) (f : Option Bytes) (to : List Bytes) (msg : Bytes)
    (hm : cfg.mode = .required) :
    ∀ c', (sendOnce true cfg cs ts f to msg).1.clear = some c' →
      ∀ u ∈ c'.sent, u = ehloLine cfg.hello ∨ u = starttlsLine ∨ u = quitLine := by
  intro c' h
  rw [(sendOnce_required_clear cfg cs ts f to msg hm).1] at h
  exact establish_clear true cfg cs ts c' h

/-- With `wrapper` nothing at all is written in clear. -/
theorem wrapper_nothing_in_clear (cfg : Cfg) (cs ts : List Step) (f : Option Bytes) (to : List Bytes) (msg : Bytes)
    (hm : cfg.mode = .wrapper) : (sendOnce true cfg cs ts f to msg).1.clear = none := by
  unfold sendOnce establish
  simp only [hm]
  by_cases hh : cfg.hs = true
  · simp only [hh, Bool.not_true, Bool.false_eq_true, if_false]
    cases hc : connect ts cfg.hello with
    | mk t r =>
      cases r with
      | error e => rfl
      | ok u =>
        simp only [Out.session, Option.orElse]
        split <;> rfl
  · have : cfg.hs = false := by simpa using hh
    simp [this]

/-- Fail closed: with `required` a send can only succeed when the handshake succeeded and the
    session is inside TLS; in particular not offering STARTTLS, refusing it, or a failed
    handshake / certificate / host-name verification all make the send fail. -/
theorem required_fail_closed (cfg : Cfg) (cs ts : List Step) (f : Option Bytes) (to : List Bytes) (msg : Bytes)
    (hm : cfg.mode = .required) (r : Resp) (h : (sendOnce true cfg cs ts f to msg).2 = .ok r) :
    cfg.hs = true ∧ (sendOnce true cfg cs ts f to msg).1.tls.isSome = true :=
  (sendOnce_required_clear cfg cs ts f to msg hm).2 r h

/-- With a failed handshake no TLS session exists under `required` (nothing is sent "inside
    TLS" either). -/
theorem failed_handshake_no_session (cfg : Cfg) (cs ts : List Step) (hm : cfg.mode = .required)
    (hh : cfg.hs = false) : (establish true cfg cs ts).1.tls = none := by
  have := (establish_required cfg cs ts hm).2
  cases ht : (establish true cfg cs ts).1.tls with
  | none => rfl
  | some t => rw [ht] at this; have := this rfl; rw [hh] at this; cases this

/-- Capabilities learned before STARTTLS are replaced by those of the EHLO repeated inside TLS,
    and the session inside TLS starts from an empty read buffer: it is exactly `ehlo` run on a
    fresh connection over the TLS-side script, so nothing received in clear can be read as a
    reply inside TLS. -/
theorem caps_from_tls_only (cfg : Cfg) (cs ts : List Step) (hm : cfg.mode = .required)
    (h : (establish true cfg cs ts).2 = .ok ()) :
    ∃ t i, (establish true cfg cs ts).1.tls = some t ∧
      t = ((Conn.fresh ts [] i).ehlo cfg.hello).1 :=
  ((establish_required cfg cs ts hm).1 h).2

/-- `opportunistic` upgrades exactly when STARTTLS is offered. -/
theorem opportunistic_iff_offered (cfg : Cfg) (cs ts : List Step) (hm : cfg.mode = .opportunistic) (c : Conn)
    (hc : connect cs cfg.hello = (c, .ok ())) :
    (c.supports (·.startTls) = true → establish true cfg cs ts = starttls true cfg c ts) ∧
    (c.supports (·.startTls) = false → establish true cfg cs ts = (⟨some c, none, false⟩, .ok ())) := by
  unfold establish
  simp only [hm, hc]
  constructor <;> intro h <;> simp [h]

/-- `none` never upgrades. -/
theorem none_never_upgrades (cfg : Cfg) (cs ts : List Step) (hm : cfg.mode = .none) :
    (establish true cfg cs ts).1.tls = none ∧ (establish true cfg cs ts).1.attempted = false := by
  unfold establish
  simp only [hm]
  cases hc : connect cs cfg.hello with
  | mk c r => cases r <;> simp

/-- The danger switches relax exactly the check they name (as the connector is configured):
    with neither, only a trusted certificate for the right name within its validity is
    accepted; `accept_invalid_hostnames` additionally accepts a trusted certificate for another
    name but still rejects untrusted and expired ones; `accept_invalid_certs` accepts all. -/
theorem switch_table :
    (∀ cert addRoot, expectHandshake cert addRoot false false = (addRoot && cert == .good)) ∧
    (∀ cert addRoot, expectHandshake cert addRoot false true = (addRoot && (cert == .good || cert == .wrongName))) ∧
    (∀ cert addRoot aih, expectHandshake cert addRoot true aih = true) := by
  refine ⟨?_, ?_, ?_⟩ <;> intro cert <;> cases cert <;> decide

/-- Which roots count: the chain is anchored iff the test CA itself was added, or the platform trusts it and the
    platform's store was not switched off; adding some other root, with or without `CertificateStore::None`, changes
    nothing. -/
theorem trust_anchors :
    (∀ sn p, anchored 1 sn p = true) ∧ (∀ r, r ≠ 1 → ∀ p, anchored r true p = false) ∧
    (∀ r, r ≠ 1 → ∀ p, anchored r false p = p) := by
  refine ⟨by intro sn p; simp [anchored], ?_, ?_⟩
  · intro r hr p; simp [anchored, hr]
  · intro r hr p; simp [anchored, hr]

/-- non-vacuity: the response-injection script. With the buffer check the client stops after
    STARTTLS (QUIT in clear, no TLS session); without it the injected `AUTH LOGIN` would be used
    inside TLS although the server offers only PLAIN there. -/
example :
    let cs : List Step := [⟨str "220 hi\r\n", false⟩, ⟨str "250-srv\r\n250 STARTTLS\r\n", false⟩,
      ⟨str "220 go\r\n250-x\r\n250 AUTH LOGIN\r\n", false⟩]
    let ts : List Step := [⟨str "250-srv\r\n250 AUTH PLAIN\r\n", false⟩, ⟨str "334 VXNlcm5hbWU6\r\n", false⟩]
    let cfg : Cfg := ⟨.required, true, str "me", some ([.login, .plain], str "u", str "p")⟩
    (sendOnce true cfg cs ts none [str "x@y.z"] (str "m")).1.clearUnits =
        [str "EHLO me\r\n", str "STARTTLS\r\n", str "QUIT\r\n"] ∧
    (sendOnce true cfg cs ts none [str "x@y.z"] (str "m")).1.tlsUnits = [] ∧
    (sendOnce false cfg cs ts none [str "x@y.z"] (str "m")).1.tlsUnits.take 2 =
        [str "EHLO me\r\n", str "AUTH LOGIN\r\n"] := by
  decide +kernel

end LV.C06
