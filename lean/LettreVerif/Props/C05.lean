import LettreVerif.Props.C04
import LettreVerif.Proofs.TransportOnce
import LettreVerif.Proofs.Tls
/-!
# C05 — A send reports success iff the server accepted the message; never twice

`Conn` is the SMTP client over an arbitrary scripted peer (`Model/Client.lean`); `c.sent` is
everything written so far, most recent first.  All statements hold for every script, i.e. for
every server behaviour.
-/
namespace LV.C05
open LV LV.Client LV.Response LV.Transport

/-- Everything a send can do, for every server behaviour: it is refused by the client before
    anything is written; or it writes MAIL, one RCPT per recipient in order, DATA and the
    content, and returns exactly the reply that answered the content; or it fails, having
    written a prefix of that sequence followed by at most one QUIT, and leaves the connection
    shut (never reusable).  In particular there is never a second MAIL or a second content
    block, and content is written only when MAIL, every RCPT and DATA were answered positively. -/
theorem send_outcomes (c : Conn) (from? : Option Bytes) (to : List Bytes) (msg : Bytes) (h : c.shut = false) :
    ((c.send from? to msg) = (c, .error .client) ∧
        ((needsUtf8 from? to = true ∧ c.supports (·.smtpUtf8) = false) ∨
         (needsEight msg = true ∧ c.supports (·.eightBit) = false))) ∨
    (∃ (c1 : Conn) (r : Resp), (c.send from? to msg) = ((c1.message msg).1, .ok r) ∧ (c1.message msg).2 = .ok r ∧
        c1.shut = false ∧
        c1.sent = dataLine :: ((to.map rcptLine).reverse ++
          mailLine from? (needsUtf8 from? to) (needsEight msg) :: c.sent) ∧
        (c1.message msg).1.sent = Codec.wire msg :: c1.sent) ∨
    (∃ (c' : Conn) (e : Err) (us : List Bytes), (c.send from? to msg) = (c', .error e) ∧ Aborted c c' us ∧
        (us = [mailLine from? (needsUtf8 from? to) (needsEight msg)] ∨
         (∃ k, k < to.length ∧
            us = mailLine from? (needsUtf8 from? to) (needsEight msg) :: (to.take (k + 1)).map rcptLine) ∨
         us = mailLine from? (needsUtf8 from? to) (needsEight msg) :: to.map rcptLine ++ [dataLine] ∨
         us = mailLine from? (needsUtf8 from? to) (needsEight msg) :: to.map rcptLine ++
            [dataLine, Codec.wire msg])) :=
  C04.envelope_on_the_wire c from? to msg h

/-- A 4xx reply is reported as transient, a 5xx reply as permanent, each with the server's code
    and text; success only for 2xx/3xx. -/
theorem error_carries_code_and_text (c : Conn) (h : c.shut = false) :
    (∀ r, c.read.2 = .ok r → classify r.code = .positive) ∧
    (∀ cd t, c.read.2 = .error (.transient cd t) →
        ∃ r, (readResp c.buf).1 = .reply r ∧ r.code = cd ∧ r.lines.flatten = t ∧ cd.1 = 4) ∧
    (∀ cd t, c.read.2 = .error (.permanent cd t) →
        ∃ r, (readResp c.buf).1 = .reply r ∧ r.code = cd ∧ r.lines.flatten = t ∧ classify cd = .permanent) := by
  obtain ⟨res, he, hres⟩ := read_open c h
  rw [he]
  rcases hres with rfl | ⟨r, hr, rfl⟩
  · exact ⟨by rintro _ ⟨⟩, by rintro _ _ ⟨⟩, by rintro _ _ ⟨⟩⟩
  · cases hcl : classify r.code
    · exact ⟨fun _ e => by cases e; exact hcl, by rintro _ _ ⟨⟩, by rintro _ _ ⟨⟩⟩
    · exact ⟨by rintro _ ⟨⟩, fun _ _ e => by cases e; exact ⟨r, hr, rfl, rfl, (C15.classify_transient _).mp hcl⟩,
        by rintro _ _ ⟨⟩⟩
    · exact ⟨by rintro _ ⟨⟩, by rintro _ _ ⟨⟩, fun _ _ e => by cases e; exact ⟨r, hr, rfl, rfl, hcl⟩⟩

/-- Success is reported only with a positive reply, and it is the reply read right after the
    content was written. -/
theorem ok_is_final_positive_reply (c : Conn) (from? : Option Bytes) (to : List Bytes) (msg : Bytes)
    (h : c.shut = false) (r : Resp) (hok : (c.send from? to msg).2 = .ok r) :
    classify r.code = .positive ∧
    ∃ c1 : Conn, c1.shut = false ∧ ((c1.write (Codec.wire msg)).read).2 = .ok r ∧
      (c.send from? to msg).1.sent = Codec.wire msg :: c1.sent := by
  obtain ⟨c1, h2, hw, hx⟩ := send_ok c from? to msg h r hok
  have h3 := hw.shut.trans h
  exact ⟨(error_carries_code_and_text _ ((write_wrote c1 (Codec.wire msg)).shut.trans h3)).1 r h2, c1, h3, h2, hx.sent⟩

/-- A send that fails with anything but the client's own refusal (which writes nothing) leaves the connection shut: `abort`
    has closed it, and nothing is written or read on it again. -/
theorem failed_send_shuts (c : Conn) (from? : Option Bytes) (to : List Bytes) (msg : Bytes)
    (h : c.shut = false) (e : Err) (he : (c.send from? to msg).2 = .error e) (hne : e ≠ .client) :
    (c.send from? to msg).1.shut = true := by
  rcases send_spec c from? to msg h with ⟨h1, _⟩ | ⟨c1, r', h1, _⟩ | ⟨c', e', us, h1, hc, _⟩
  · rw [h1] at he; simp only [Except.error.injEq] at he; exact absurd he.symm hne
  · rw [h1] at he; cases he
  · rw [h1]; exact hc.shut

/-- **A send never retries by itself (transport level).** `Pool.dataCommands` counts the `DATA` commands written on all
    connections the transport ever opened. One `send_raw` — check-out of a pooled connection with its NOOP probes, closing
    the ones that fail the probe, possibly opening a new connection, the transaction, the return of the connection —
    adds at most one, whatever the peer does on any of the connections: the message is handed over at most once, there
    is no second attempt on another connection. -/
theorem send_raw_hands_over_at_most_once (p : Pool) (from? : Option Bytes) (to : List Bytes) (msg : Bytes) :
    (p.sendRaw from? to msg).1.dataCommands ≤ p.dataCommands + 1 :=
  (sendRaw_data p from? to msg).1

/-- … and a `send_raw` that reports success has handed it over exactly once. -/
theorem successful_send_raw_hands_over_once (p : Pool) (from? : Option Bytes) (to : List Bytes) (msg : Bytes) (r : Resp)
    (hok : (p.sendRaw from? to msg).2 = .ok r) :
    (p.sendRaw from? to msg).1.dataCommands = p.dataCommands + 1 :=
  (sendRaw_data p from? to msg).2 r hok

/-- non-vacuity: the pooled connection dies at the end of data of the second send (the peer closes without a reply);
    a further connection would be served, yet the failed send is not repeated there: two DATA commands for two sends. -/
example :
    let h : List Step := [⟨str "220 hi\r\n", false⟩, ⟨str "250 srv\r\n", false⟩, ⟨str "250 ok\r\n", false⟩,
      ⟨str "250 ok\r\n", false⟩, ⟨str "354 go\r\n", false⟩, ⟨str "250 queued\r\n", false⟩]
    let dying : List Step := h ++ [⟨str "250 ok\r\n", false⟩, ⟨str "250 ok\r\n", false⟩, ⟨str "250 ok\r\n", false⟩,
      ⟨str "354 go\r\n", false⟩, ⟨[], true⟩]
    let p0 : Pool := { conns := [], idle := [], scripts := [dying, h], maxSize := 1, hello := str "c" }
    let p1 := (p0.sendRaw none [str "x@y.z"] (str "m")).1
    let p2 := (p1.sendRaw none [str "x@y.z"] (str "m")).1
    p1.dataCommands = 1 ∧ p2.dataCommands = 2 ∧ p2.conns.length = 1 ∧
      (match (p1.sendRaw none [str "x@y.z"] (str "m")).2 with | .error .bad => true | _ => false) = true := by
  decide +kernel

/-- non-vacuity: against a server that accepts everything, a send succeeds and writes exactly
    EHLO, MAIL, RCPT, DATA, content; against one that refuses the recipient it fails after RCPT
    and QUIT, without DATA or content. -/
example :
    let sc : List Step := [⟨str "220 hi\r\n", false⟩, ⟨str "250 srv\r\n", false⟩, ⟨str "250 ok\r\n", false⟩,
      ⟨str "250 ok\r\n", false⟩, ⟨str "354 go\r\n", false⟩, ⟨str "250 queued\r\n", false⟩]
    let c := (connect sc (str "me")).1
    c.shut = false ∧ (c.send (some (str "a@b.c")) [str "x@y.z"] (str ".hi")).1.sent.reverse =
      [str "EHLO me\r\n", str "MAIL FROM:<a@b.c>\r\n", str "RCPT TO:<x@y.z>\r\n", str "DATA\r\n",
       str "..hi\r\n.\r\n"] := by
  decide +kernel

example :
    let sc : List Step := [⟨str "220 hi\r\n", false⟩, ⟨str "250 srv\r\n", false⟩, ⟨str "250 ok\r\n", false⟩,
      ⟨str "550 no\r\n", false⟩, ⟨str "221 bye\r\n", false⟩]
    let c := (connect sc (str "me")).1
    (c.send none [str "x@y.z"] (str "hi")).1.sent.reverse =
      [str "EHLO me\r\n", str "MAIL FROM:<>\r\n", str "RCPT TO:<x@y.z>\r\n", str "QUIT\r\n"] ∧
    (match (c.send none [str "x@y.z"] (str "hi")).2 with
     | .error (.permanent cd t) => cd == (5, 5, 0) && t == str "no"
     | _ => false) = true := by
  decide +kernel

/-! ## connection set-up through a transport (`Model/Tls.lean`: `SmtpClient::connection`, then one send) -/

open LV.Tls in
/-- **A refused STARTTLS is reported as the server said it.** With required or opportunistic TLS, when the server that offered
    STARTTLS answers the command with anything that is not an acceptance (a 4xx / 5xx reply, a malformed reply, a closed
    connection: `e` is what reading that reply gives — `error_carries_code_and_text` applied to `c.write starttlsLine`), the
    send fails with exactly that error, no handshake is attempted, nothing is written but the QUIT of `abort`, and the session
    is never continued in clear. (Round 7 of the seeded changes: C05/m19 swallowed a 4xx here; the send then failed with a
    network error on the aborted connection.) -/
theorem starttls_refusal_reported (bc : Bool) (cfg : Cfg) (cs ts : List Step) (f : Option Bytes) (to : List Bytes) (msg : Bytes)
    (c c' : Conn) (e : Err)
    (hm : cfg.mode = .required ∨ cfg.mode = .opportunistic)
    (hc : connect cs cfg.hello = (c, .ok ()))
    (hs : c.supports (·.startTls) = true)
    (hr : c.command starttlsLine = (c', .error e)) :
    sendOnce bc cfg cs ts f to msg = (⟨some c'.abort, none, false⟩, .error e) := by
  have hst : starttls bc cfg c ts = (⟨some c'.abort, none, false⟩, .error e) := by
    unfold starttls
    simp [hs, hr, tryAbort]
  have hest : establish bc cfg cs ts = (⟨some c'.abort, none, false⟩, .error e) := by
    unfold establish
    rcases hm with h | h <;> simp [h, hc, hs, hst]
  unfold sendOnce
  rw [hest]

open LV.Tls in
/-- **A refused authentication is reported as the server said it**, and the message is never offered: when the connection is
    established (in clear or inside TLS) and `auth` fails with `e` (the error of `auth_wire`: the server's 4xx / 5xx reply with
    its code and text, a malformed reply, or no usable mechanism), the send fails with exactly `e` and nothing is written
    after what `auth` wrote — no MAIL, no RCPT, no DATA. -/
theorem auth_refusal_reported (bc : Bool) (cfg : Cfg) (cs ts : List Step) (f : Option Bytes) (to : List Bytes) (msg : Bytes)
    (o : Out) (c c' : Conn) (prefs : List Mech) (u p : Bytes) (e : Err)
    (he : establish bc cfg cs ts = (o, .ok ()))
    (hsess : o.session = some c)
    (hcr : cfg.creds = some (prefs, u, p))
    (ha : c.auth prefs u p = (c', .error e)) :
    sendOnce bc cfg cs ts f to msg = (o.withSession c', .error e) := by
  unfold sendOnce
  rw [he]
  simp only [hsess, hcr, ha]

open LV.Tls in
/-- non-vacuity: opportunistic TLS, STARTTLS answered `454`: the send reports the transient 454 with its text, and the clear
    channel carries EHLO, STARTTLS, QUIT and nothing else -/
example :
    let cs : List Step := [⟨str "220 hi\r\n", false⟩, ⟨str "250-srv\r\n250 STARTTLS\r\n", false⟩, ⟨str "454 tls not available\r\n", false⟩,
      ⟨str "221 bye\r\n", false⟩]
    let r := sendOnce true ⟨.opportunistic, true, str "me", none⟩ cs [] (some (str "a@b.c")) [str "x@y.z"] (str "m")
    (match r.2 with
      | .error (.transient cd t) => cd == (4, 5, 4) && t == str "tls not available"
      | _ => false) = true ∧
    r.1.clearUnits = [str "EHLO me\r\n", str "STARTTLS\r\n", str "QUIT\r\n"] ∧ r.1.tlsUnits = [] := by
  decide +kernel

end LV.C05
