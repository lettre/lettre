import LettreVerif.Proofs.C15
import LettreVerif.Proofs.ServerInfo
/-!
# C15 — Server replies are framed and classified per RFC 5321 however they arrive

`parse` is the byte-machine model of `parse_response`; `readResp` the model of
`read_response` (accumulate `read_line`s until the buffer parses; end of stream = error);
`render` / `renderBare` / `wf` are the RFC 5321 §4.2 grammar (Spec/ReplyGrammar.lean);
`ServerInfo.fromResponse` is the model of `ServerInfo::from_response`.
-/
namespace LV.C15
open LV LV.Response LV.ReplyGrammar

/-- Every well-formed reply, in either spelling of an empty last text and followed by
    anything, parses back to an equal value and consumes exactly its own octets. -/
theorem parse_complete (r : Resp) (rest : Bytes) (h : wf r = true) :
    parse (render r ++ rest) = .ok r rest ∧ parse (renderBare r ++ rest) = .ok r rest := by
  obtain ⟨c, ls⟩ := r
  simp only [wf, Bool.and_eq_true, Bool.not_eq_true'] at h
  simpa [parse, bareOk, init, render, renderBare] using
    run_lines c h.1.1 ls (by intro e; simp [e] at h) h.2 [] (List.forall_mem_nil _) rest

/-- Whatever is accepted is a rendered well-formed reply: same code on every line, digits in
    range, lines in order, the text unchanged — malformed or inconsistent input is never
    accepted, and the rest starts right after the reply's final CRLF. -/
theorem parse_sound (s : Bytes) (r : Resp) (rest : Bytes) (h : parse s = .ok r rest) :
    wf r = true ∧ (s = render r ++ rest ∨ s = renderBare r ++ rest) := by
  obtain ⟨ts, hne, hall, hc, -, hl, hs⟩ := sound_lines s.length [] s r rest (Nat.le_refl _) h
  obtain ⟨c, ls⟩ := r
  obtain rfl : ls = ts := hl
  exact ⟨by simp [wf, hc, hall, hne], hs⟩

/-- A definitive answer does not depend on what arrives later (so it does not depend on how
    the stream is cut into segments). -/
theorem answer_stable (p e : Bytes) :
    (∀ r rest, parse p = .ok r rest → parse (p ++ e) = .ok r (rest ++ e)) ∧
    (parse p = .error → parse (p ++ e) = .error) ∧
    (parse p = .failure → parse (p ++ e) = .failure) := by
  obtain ⟨_, ha⟩ := run_append bareOk init p
  exact ⟨fun r rest h => by rw [parse, ha, ← parse, h], fun h => by rw [parse, ha, ← parse, h],
    fun h => by rw [parse, ha, ← parse, h]⟩

/-- No proper prefix of a reply gives an answer: never a premature or misattributed reply. -/
theorem prefix_incomplete (r : Resp) (h : wf r = true) (p : Bytes) (hp : p <+: render r)
    (hne : p ≠ render r) : parse p = .incomplete := by
  obtain ⟨e, he⟩ := hp
  refine run_prefix_incomplete _ _ p e r ?_ (by rintro rfl; exact hne (by simpa using he))
  rw [he, ← List.append_nil (render r)]
  exact (parse_complete r [] h).1

/-- `read_response` on a stream that starts with a reply returns that reply and leaves exactly
    what follows it: a later line is never taken as part of an earlier answer, nor skipped. -/
theorem read_consumes_exactly (r : Resp) (h : wf r = true) (rest : Bytes) :
    readResp (render r ++ rest) = (.reply r, rest) :=
  (readResp_reply_iff _ r rest).mpr (parse_complete r rest h).1

/-- A stream that ends inside a reply gives an error value (no endless wait on a closed
    stream, no partial answer). -/
theorem eof_is_error (r : Resp) (h : wf r = true) (p : Bytes) (hp : p <+: render r)
    (hne : p ≠ render r) : (readResp p).1 = .bad :=
  incomplete_no_reply p (prefix_incomplete r h p hp hne)

/-- The three digits alone decide the class. -/
theorem classify_first_digit (c : Code) :
    (classify c = .positive ↔ c.1 = 2 ∨ c.1 = 3) ∧ (classify c = .transient ↔ c.1 = 4) :=
  ⟨classify_positive c, classify_transient c⟩

/-- EHLO keywords and AUTH mechanisms are read from exactly the reply's lines: a feature is
    recorded iff some line's first word is that keyword, a mechanism iff some line whose first
    word is `AUTH` lists it.  (The server name is not part of the statement.) -/
theorem serverinfo_exact (ls : List (List Char)) (i : ServerInfo.Info)
    (h : ServerInfo.fromResponse ls = .ok i) :
    i.eightBit = ls.any (ServerInfo.announces ServerInfo.kw8BITMIME) ∧
    i.smtpUtf8 = ls.any (ServerInfo.announces ServerInfo.kwSMTPUTF8) ∧
    i.startTls = ls.any (ServerInfo.announces ServerInfo.kwSTARTTLS) ∧
    i.plain = ls.any (ServerInfo.authLists ServerInfo.kwPLAIN) ∧
    i.login = ls.any (ServerInfo.authLists ServerInfo.kwLOGIN) ∧
    i.xoauth2 = ls.any (ServerInfo.authLists ServerInfo.kwXOAUTH2) := by
  simp only [ServerInfo.fromResponse] at h
  split at h
  · cases h
  · rename_i name _
    simp only [ServerInfo.Res.ok.injEq] at h
    subst h
    have or (g : ServerInfo.Info → Bool) (q : List Char → Bool) (hl : ∀ i l, g (ServerInfo.line i l) = (g i || q l)) :
        g (ServerInfo.scan { name := name } ls) = (g { name := name } || ls.any q) :=
      ServerInfo.scan_or g q hl _ ls
    exact ⟨or (·.eightBit) _ fun i l => (ServerInfo.line_spec i l).1,
      or (·.smtpUtf8) _ fun i l => (ServerInfo.line_spec i l).2.1,
      or (·.startTls) _ fun i l => (ServerInfo.line_spec i l).2.2.1,
      or (·.plain) _ fun i l => (ServerInfo.line_spec i l).2.2.2.1,
      or (·.login) _ fun i l => (ServerInfo.line_spec i l).2.2.2.2.1,
      or (·.xoauth2) _ fun i l => (ServerInfo.line_spec i l).2.2.2.2.2⟩

/-- non-vacuity: a three-line reply with a dash, digits and a bare CR in its texts is
    well-formed, and its two-line truncation is a proper prefix. -/
example :
    let r : Resp := ⟨(2, 5, 0), [[97, 45, 49], [50, 53, 48, 32, 13, 120], []]⟩
    wf r = true ∧ parse (render r) = .ok r [] ∧ parse (renderBare r) = .ok r [] ∧
      parse ((render r).take 20) = .incomplete ∧ readResp (render r ++ [53]) = (.reply r, [53]) := by
  decide +kernel

/-- non-vacuity: mixed codes are a failure, a missing separator an error. -/
example : parse [50, 53, 48, 45, 97, 13, 10, 50, 53, 49, 32, 98, 13, 10] = .failure ∧
    parse [50, 53, 48, 120] = .error := by decide +kernel

end LV.C15
