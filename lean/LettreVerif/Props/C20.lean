import LettreVerif.Proofs.TransportBlocked
import LettreVerif.Proofs.TransportInv
import LettreVerif.Model.Timeouts
/-!
# C20 — A stalled server cannot block a send beyond the configured timeout

The theorems count the reads that have to wait on a peer that has gone silent (`blocked`);
real time is the kernel's and tokio's (partial): with the sync client each such read returns
after T, with the tokio client it has no deadline at all (`tokio_unbounded_witness`, a known
finding).
-/
namespace LV.C20
open LV LV.Client LV.Transport LV.Timeouts LV.Response

/-- Wherever the peer goes silent — before any reply, in the middle of a reply line, at MAIL,
    any RCPT, DATA or end-of-data — a send waits at most twice (the read that meets the
    silence and the read after the QUIT of `abort`); if it waited at all it returns an error and
    the connection is shut. -/
theorem send_waits_at_most_twice (c : Conn) (from? : Option Bytes) (to : List Bytes) (msg : Bytes)
    (h : c.shut = false) :
    (c.send from? to msg).1.blocked ≤ c.blocked + 2 ∧
    ((c.send from? to msg).1.blocked ≠ c.blocked →
      (∃ e, (c.send from? to msg).2 = .error e) ∧ (c.send from? to msg).1.shut = true) :=
  send_blocked c from? to msg h

/-- with the sync client every read has the deadline T: `n` waits, with `n ≤ K`, take at most `K·T` -/
theorem sync_bound (n K : Nat) (h : n ≤ K) : ∃ b, waitBound .sync n = some b ∧ b ≤ K := by
  unfold waitBound
  by_cases h0 : n = 0
  · exact ⟨0, if_pos h0, Nat.zero_le _⟩
  · exact ⟨n, by rw [if_neg h0]; rfl, h⟩

/-- With the sync client the waiting time of a send is therefore at most 2·T. -/
theorem sync_send_bounded (c : Conn) (from? : Option Bytes) (to : List Bytes) (msg : Bytes) (h : c.shut = false) :
    ∃ b, waitBound .sync ((c.send from? to msg).1.blocked - c.blocked) = some b ∧ b ≤ 2 := by
  exact sync_bound _ _ (Nat.sub_le_iff_le_add'.mpr (send_blocked c from? to msg h).1)

/-- A read that waits reports an error (never a reply), so a silent peer is never mistaken for
    an answer. -/
theorem waiting_read_is_error (c : Conn) :
    (c.read.1.blocked = c.blocked) ∨ (c.read.1.blocked = c.blocked + 1 ∧ ∃ e, c.read.2 = .error e) :=
  read_blocked c

/-- The stalled connection is never reused: a broken connection is closed on return, not
    parked. -/
theorem broken_not_parked (p : Pool) (i : Nat) (c : Conn) (hc : p.conns[i]? = some c) (hp : c.panic = true) :
    (p.recycle i).idle = p.idle := by
  simp [Pool.recycle, hc, hp, Pool.setConn]

/-- **Through the transport, on pooled and fresh connections.** One `send_raw` over a pool with `n` parked connections
    makes at most `2·n + 5` reads wait on silent peers, counted over every connection of the transport and whatever
    each peer does: two per parked connection that fails its NOOP probe (the probe, and the QUIT of `abort`), two for a
    new connection (greeting or EHLO, and QUIT), two for the transaction (`send_waits_at_most_twice`), one for the QUIT
    of a connection that is not parked afterwards. -/
theorem send_raw_waits_bounded (p : Pool) (from? : Option Bytes) (to : List Bytes) (msg : Bytes) :
    (p.sendRaw from? to msg).1.totalBlocked ≤ p.totalBlocked + 2 * p.idle.length + 5 := by
  have ha := acquire_blocked p p.idle
  rcases sendRaw_cases p from? to msg with ⟨e, h⟩ | ⟨p1, i, c, h1, hc, hs, h⟩ <;> simp only [h]
  · omega
  · simp only [h1] at ha
    have := blocked_setConn_le p1 i hc (send_blocked c from? to msg hs).1
    have := recycle_blocked (p1.setConn i (c.send from? to msg).1) i
    omega

/-- With the sync client a `send_raw` therefore waits at most (2·n + 5)·T. -/
theorem sync_send_raw_bounded (p : Pool) (from? : Option Bytes) (to : List Bytes) (msg : Bytes) :
    ∃ b, waitBound .sync ((p.sendRaw from? to msg).1.totalBlocked - p.totalBlocked) = some b ∧
      b ≤ 2 * p.idle.length + 5 := by
  have := send_raw_waits_bounded p from? to msg
  rw [Nat.add_assoc] at this
  exact sync_bound _ _ (Nat.sub_le_iff_le_add'.mpr this)

/-- non-vacuity: the parked connection has gone silent; its NOOP probe waits, so does the QUIT of `abort`; the send then
    goes to a new connection and succeeds. -/
example :
    let h : List Step := [⟨str "220 hi\r\n", false⟩, ⟨str "250 srv\r\n", false⟩, ⟨str "250 ok\r\n", false⟩,
      ⟨str "250 ok\r\n", false⟩, ⟨str "354 go\r\n", false⟩, ⟨str "250 queued\r\n", false⟩]
    let p0 : Pool := { conns := [], idle := [], scripts := [h, h], maxSize := 1, hello := str "c", stallAtEnd := true }
    let p1 := (p0.sendRaw none [str "x@y.z"] (str "m")).1
    p1.idle.length = 1 ∧ p1.totalBlocked = 0 ∧
      (p1.sendRaw none [str "x@y.z"] (str "m")).1.totalBlocked = 2 ∧
      (match (p1.sendRaw none [str "x@y.z"] (str "m")).2 with | .ok _ => true | _ => false) = true := by
  decide +kernel

/-- **The stalled connection is never reused, the transport stays usable.** In a transport whose parked connections are
    healthy (`PoolInv`: kept by every `send_raw` from the empty transport on — `C08.parked_connections_are_healthy`), after
    a `send_raw`, whatever happened in it, everything parked is still unbroken and open: a connection on which a read
    waited (`send_waits_at_most_twice`: it is then shut) is not among them, so the next send probes a healthy connection
    or opens a new one. -/
theorem after_send_raw_parked_are_open (p : Pool) (h : PoolInv p) (from? : Option Bytes) (to : List Bytes) (msg : Bytes) :
    ∀ i ∈ (p.sendRaw from? to msg).1.idle,
      ∃ c, (p.sendRaw from? to msg).1.conns[i]? = some c ∧ c.panic = false ∧ c.shut = false :=
  fun i hi => parked_healthy _ (sendRaw_inv p from? to msg h) i hi

/-- The tokio client has no deadline on reads: a peer that never greets makes `connect` wait on
    a read that nothing bounds (the finding `async-no-io-deadline`). -/
theorem tokio_unbounded_witness :
    deadline .tokio .read = false ∧
    (let c0 : Conn := ({ Conn.fresh [] [] none with stallAtEnd := true }).deliver
     c0.read.1.blocked = 1 ∧ waitBound .tokio c0.read.1.blocked = none) := by
  decide +kernel

/-- non-vacuity: the peer goes silent after EHLO; the send waits twice and fails. -/
example :
    let sc : List Step := [⟨str "220 hi\r\n", false⟩, ⟨str "250 srv\r\n", false⟩]
    let p0 : Pool := { conns := [], idle := [], scripts := [sc], maxSize := 1, hello := str "c", stallAtEnd := true }
    (p0.sendRaw none [str "x@y.z"] (str "m")).1.totalBlocked = 2 := by
  decide +kernel

end LV.C20
