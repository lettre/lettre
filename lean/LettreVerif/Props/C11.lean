import LettreVerif.Proofs.Mime
import LettreVerif.Proofs.ContentType
/-!
# C11 — MIME trees format to a structure an independent parser reads back identically

Proved here: `parse_format` — the RFC 2046 reader of `Spec/MimeParse.lean` applied to the octets of any
well-formed tree, up to the CRLF that ends them (`core`), gives back the tree — and the layout facts (purity and
compositionality, delimiter and closing-delimiter lines use exactly the boundary, also for an empty multipart).  The
correspondence check ties the formatter model to `SinglePart::formatted` / `MultiPart::formatted` /
`Message::formatted`, evaluates the hypotheses of `parse_format` (`wfB`, proved sound in `Proofs/Mime.lean`) on the
real header blocks and boundaries of every generated tree, and runs the same reader on the real octets.
-/
namespace LV.C11
open LV LV.Mime LV.MimeParse LV.MimeProof LV.HeaderReader

/-- Formatting is a function of the tree (its header blocks, bodies and boundaries): the same
    tree gives the same octets, alone or inside a parent — a child's octets appear verbatim,
    right after its delimiter line, in the parent's output. -/
theorem child_verbatim_in_parent (bd : Bytes) (pre post : List Tree) (p : Tree) :
    formatParts bd (pre ++ p :: post) =
      formatParts bd pre ++ (dashes ++ bd ++ CRLF ++ format p) ++ formatParts bd post := by
  rw [formatParts_append, formatParts]
  simp only [List.append_assoc]

/-- Every multipart, empty or not, ends with the closing delimiter of exactly its boundary. -/
theorem closing_delimiter (h bd : Bytes) (ps : List Tree) :
    ∃ pre, format (.multi h bd ps) = pre ++ (dashes ++ bd ++ dashes ++ CRLF) := by
  refine ⟨h ++ CRLF ++ formatParts bd ps, ?_⟩
  simp [format, List.append_assoc]

/-- An empty multipart is its header block, the empty line and the closing delimiter. -/
theorem empty_multipart (h bd : Bytes) :
    format (.multi h bd []) = h ++ CRLF ++ dashes ++ bd ++ dashes ++ CRLF := by
  simp [format, formatParts]

/-- Each part is introduced by a delimiter line made of exactly `--` and the boundary. -/
theorem delimiter_before_each_part (bd : Bytes) (p : Tree) (ps : List Tree) :
    formatParts bd (p :: ps) = dashes ++ bd ++ CRLF ++ format p ++ formatParts bd ps := by
  simp [formatParts]

theorem single_part_layout (h b : Bytes) : format (.leaf h b) = h ++ CRLF ++ b ++ CRLF := by
  simp [format]

theorem message_layout (mh : Bytes) (t : Tree) : formatMessage mh t = mh ++ format t := rfl

/-- **parse ∘ format = id** up to the last CRLF, for every tree: an RFC 2046 reader applied to the octets of an entity
    without the CRLF that ends them (`core`: inside a multipart that CRLF belongs to the next delimiter line) recovers
    the tree — same nesting and part order, each entity's own header fields, each leaf's content octet for octet.
    With that CRLF a multipart at the root reads back all the same (`parse_format_multipart`), a single part at the
    root gains it as content (`toplevel_leaf_gets_crlf`).
    `WF`: header fields are well formed (C02 proves that of every field lettre writes), a multipart's
    Content-Type announces its boundary, the boundary has no CR and does not end in white space, and no line of a
    part reads as a delimiter of the multipart that contains it (true of a generated 40-character boundary unless
    the content contains it; a caller-supplied boundary that occurs in the content makes the tree ambiguous for
    every reader). No bound on depth, fan-out or sizes. -/
theorem parse_format (a : ATree) (hw : WF a) (fuel : Nat) (hd : depth a < fuel) :
    parseEntity fuel (core (erase a)) = some (skel a) :=
  parse_tree a fuel hd hw

/-- a formatted multipart — with the CRLF that ends its closing delimiter line — reads back as the same tree -/
theorem parse_format_multipart (fs : List (Bytes × Bytes)) (bd : Bytes) (ps : List ATree)
    (hw : WF (.multi fs bd ps)) (fuel : Nat) (hd : depth (.multi fs bd ps) < fuel) :
    parseEntity fuel (format (erase (.multi fs bd ps))) = some (skel (.multi fs bd ps)) := by
  rw [format_core, ← List.append_nil (_ ++ CRLF)]
  exact parse_multi_epilogue fs bd ps hw fuel hd []

theorem formatFields_append (a b : List (Bytes × Bytes)) : formatFields (a ++ b) = formatFields a ++ formatFields b := by
  simp [formatFields]

/-- a whole message whose body is a multipart: the message's own fields followed by the multipart's, then the same
    tree (`Message::formatted`: the part's header fields continue the message's header section) -/
theorem parse_message (mfs fs : List (Bytes × Bytes)) (bd : Bytes) (ps : List ATree)
    (hm : FieldsOk mfs) (hnc : ∀ f ∈ mfs, (f.1.map lowerB == str "content-type") = false)
    (hw : WF (.multi fs bd ps)) (fuel : Nat) (hd : depth (.multi fs bd ps) < fuel) :
    parseEntity fuel (formatMessage (formatFields mfs) (erase (.multi fs bd ps))) =
      some (.multi (mfs ++ fs) (skelL ps)) := by
  have hct : contentTypeOf (mfs ++ fs) = contentTypeOf fs := by
    rw [contentTypeOf, List.find?_append, List.find?_eq_none.mpr fun f hf => by simp [hnc f hf]]
    rfl
  have hw' : WF (.multi (mfs ++ fs) bd ps) :=
    ⟨fun f hf => (List.mem_append.mp hf).elim (hm f) (hw.1 f), hct ▸ hw.2.1, hw.2.2⟩
  have e : formatMessage (formatFields mfs) (erase (.multi fs bd ps)) = format (erase (.multi (mfs ++ fs) bd ps)) := by
    simp only [formatMessage, erase, format, formatFields_append, List.append_assoc]
  rw [e]
  exact parse_format_multipart (mfs ++ fs) bd ps hw' fuel hd

/-- What the driver evaluates on every generated tree: if the model tree `t` (whose octets are compared with the real
    ones) has header blocks that are fields written one per line (`annot`) and passes the boolean check `wfB`, the
    reader recovers it from `t`'s octets up to the CRLF that ends them (`core t`). -/
theorem checked_tree_reads_back (t : Tree) (a : ATree) (ha : annot t = some a) (hw : wfB a = true)
    (fuel : Nat) (hd : depth a < fuel) : parseEntity fuel (core t) = some (skel a) := by
  have := parse_format a (wfB_sound a hw) fuel hd
  rwa [annot_erase t a ha] at this

/-- finding `toplevel-singlepart-trailing-crlf`, as a theorem: a message whose body is a single part ends in the part's
    content followed by CRLF with no delimiter to absorb it, so a MIME reader shows the content with one CRLF added
    (inside a multipart the same CRLF belongs to the next delimiter and the content is exact: `C11.parse_format`) -/
theorem toplevel_leaf_gets_crlf (fs : List (Bytes × Bytes)) (b : Bytes) (hw : FieldsOk fs)
    (hct : (contentTypeOf fs).bind boundaryOf = none) :
    parseEntity 1 (format (erase (.leaf fs b))) = some (.leaf fs (b ++ CRLF)) := by
  rw [format_core, erase, core, List.append_assoc]
  exact parseEntity_leaf 0 _ _ fs (split_formatFields fs _ hw) hct

/-- non-vacuity: a two-level tree with a quoted boundary containing a space, a folded Content-Type, and a leaf whose
    content has `--` lines satisfies `WF` -/
example :
    let leaf1 := ATree.leaf [(str "A", str "b")] (str "h\r\n--x\r\n-- ")
    let inner := ATree.multi [(str "Content-Type", str "multipart/a; boundary=\"a b\"")] (str "a b")
      [ATree.leaf [(str "C", str "d")] (str "hi")]
    WF (ATree.multi [(str "Content-Type", str "multipart/m;\r\n boundary=Q")] (str "Q") [leaf1, inner]) :=
  wfB_sound _ (by decide +kernel)

/-- non-vacuity: the reader of Spec/MimeParse.lean recovers a two-level tree, including a leaf
    whose content has `--` lines, from the model's output. -/
example :
    let leaf1 := Tree.leaf (str "A: b\r\n") (str "h\r\n--x\r\n-- ")
    let inner := Tree.multi (str "Content-Type: multipart/a; boundary=\"a b\"\r\n") (str "a b")
      [Tree.leaf (str "C: d\r\n") (str "hi")]
    let t := Tree.multi (str "Content-Type: multipart/m;\r\n boundary=Q\r\n") (str "Q") [leaf1, inner]
    (match MimeParse.parseEntity 5 (format t) with
     | some (.multi _ [.leaf _ c1, .multi _ [.leaf _ c2]]) => c1 == str "h\r\n--x\r\n-- " && c2 == str "hi"
     | _ => false) = true := by
  decide +kernel

/-- **The Content-Type a reader sees is the media type as given**, for every printable-ASCII media type (any boundary made
    of `bchars` is one): the value written after `Content-Type: ` (`ContentType::display`, `Model/HeaderEnc.contentTypeValue`),
    once unfolded, is exactly the text — no octet of a quoted `boundary` parameter is rewritten, so the boundary announced is
    the boundary of the delimiter lines. (Before `fix:` b49469c a boundary containing a token of the form `=?…?=` was announced
    as an encoded-word.) -/
theorem content_type_written_literally (raw : Bytes) (h : raw.all (HeaderEnc.allowedChar true) = true) :
    HeaderReader.unfold (HeaderEnc.contentTypeValue raw) = raw :=
  HeaderEnc.contentTypeValue_literal raw h

/-- non-vacuity, and the repaired defect on the model: the boundary `a =?b?= c` -/
example :
    HeaderReader.unfold (HeaderEnc.contentTypeValue (str "multipart/mixed; boundary=\"a =?b?= c\"")) = str "multipart/mixed; boundary=\"a =?b?= c\"" ∧
    HeaderEnc.encodeValue HeaderEnc.opts 12 (str "multipart/mixed; boundary=\"a =?b?= c\"") ≠ str "multipart/mixed; boundary=\"a =?b?= c\"" := by
  decide +kernel

end LV.C11
