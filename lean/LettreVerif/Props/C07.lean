import LettreVerif.Proofs.PoolPerMsg
/-!
# C07 — Concurrent sends through one pooled transport stay isolated and exactly-once

Model: `Model/PoolLts.lean`, the sync and tokio pools as one transition system over their
critical sections, any number of senders, any peer behaviour, any order of transitions
(`run s es` for an arbitrary list of events).  The correspondence check forces such orders on
the real pools and replays them through `step`.

Proved for every schedule: a connection is in at most one place at any time — which is what
makes one transition of the model (lock + the lock-free work after it) atomic; the messages the
peer commits are those of the successful sends, in numbers and message by message, the `m`-th
result of a sender being that of its `m`-th message; every connection id held anywhere denotes
an existing connection.  Proved of one transaction (`transact`, one atomic step of the model): it
is whole and carries one sender's identity from MAIL to the committed content; it adds a commit
iff it reports success; one that fails leaves its connection closed and broken, and a broken
connection is not handed back.  That the transactions of the real pools are such steps is the
peer-side oracle on every replayed schedule.
-/
namespace LV.C07
open LV.PoolLts

/-- **Exactly once, in numbers.** Under every interleaving of check-outs, returns, maintenance
    passes and shutdowns, for any number of senders, any pool configuration and any peer
    behaviour: the messages committed at the peer are as many as the sends that reported
    success. -/
theorem commits_equal_successes (isAsync : Bool) (maxSize minIdle sends nSenders : Nat)
    (plans : List Plan) (es : List Ev) (s : St)
    (hr : run (init isAsync maxSize minIdle sends nSenders plans) es = some s) :
    totalCommits s = totalOk s := by
  rw [totalCommits, commitsOn_eq]
  exact (books_run credits_ok isAsync maxSize minIdle sends nSenders plans es s hr).tally

/-- **Exactly once, message by message.** Under every interleaving of check-outs, returns, maintenance passes, waits and
    shutdowns, for any number of senders, any pool configuration and any peer behaviour: for every sender `i` and every
    message index `m`, the commits the peers have recorded for `(i, m)` — over all connections ever opened — number one if
    the `m`-th send of sender `i` reported success, and none otherwise (it failed, was refused, or has not been sent).
    No message is delivered twice, none is reported delivered without having been, and none is delivered under another
    send's identity. -/
theorem each_message_exactly_once (isAsync : Bool) (maxSize minIdle sends nSenders : Nat)
    (plans : List Plan) (es : List Ev) (s : St)
    (hr : run (init isAsync maxSize minIdle sends nSenders plans) es = some s) (i m : Nat) :
    totalOf i m s = okAt i m s :=
  (totalOf_eq i m s).trans (books_run (credits_at i m) isAsync maxSize minIdle sends nSenders plans es s hr).tally

/-- …and the results a sender has are those of its messages `0 .. next-1`, plus the one of the send whose connection it
    still holds: the `m`-th result is the result of message `m`. -/
theorem results_are_indexed_by_message (isAsync : Bool) (maxSize minIdle sends nSenders : Nat)
    (plans : List Plan) (es : List Ev) (s : St)
    (hr : run (init isAsync maxSize minIdle sends nSenders plans) es = some s) (i : Nat) (t : Sender)
    (ht : s.senders[i]? = some t) :
    t.results.length = t.next + (if t.holding.isSome then 1 else 0) :=
  (books_run credits_ok isAsync maxSize minIdle sends nSenders plans es s hr).indexed i t ht

/-- non-vacuity: the peer drops the first connection after its second message; sender 1's check-out finds it dead (the
    probe fails, nothing is sent on it), its next check-out opens a new connection. Both messages of sender 0 and the
    first of sender 1 are committed once, the second of sender 1 (not sent yet) not at all. -/
example :
    let s := (run (init false 1 0 2 2 [{ dropAfter := some 2 }, {}])
      [.maintScan, .connectionLock 0, .recycleLock 0, .connectionLock 0, .recycleLock 0,
       .connectionLock 1, .connectionLock 1, .recycleLock 1]).getD (init false 1 0 0 0 [])
    (totalOf 0 0 s, totalOf 0 1 s, totalOf 1 0 s, totalOf 1 1 s) = (1, 1, 1, 0) ∧
      (okAt 0 0 s, okAt 0 1 s, okAt 1 0 s, okAt 1 1 s) = (1, 1, 1, 0) ∧ s.conns.length = 2 := by
  decide +kernel

/-- **One user at a time.** Under every interleaving, every connection is in at most one place:
    parked in the idle set, held by exactly one sender, waiting in exactly one (tokio) recycle
    task, or held by the maintenance worker — never two of these, never twice in one. -/
theorem one_place_at_a_time (isAsync : Bool) (maxSize minIdle sends nSenders : Nat)
    (plans : List Plan) (es : List Ev) (s : St)
    (hr : run (init isAsync maxSize minIdle sends nSenders plans) es = some s) (c : Nat) :
    occ s c ≤ 1 :=
  ok_excl (ok_run es _ s (ok_init isAsync maxSize minIdle sends nSenders plans) hr) c

/-- One transition: a transaction adds exactly one commit to the connection it runs on iff it
    reports success. -/
theorem transaction_commits_iff_ok (k : Conn) (i m : Nat) :
    commitsOn (transact k i m).1 = commitsOn k + (if (transact k i m).2 = .ok then 1 else 0) :=
  commitsOn_transact k i m

/-- **A failed command ends the connection.** A transaction that does not report success — the peer gone, the
    recipient refused (550 or 450), the DATA command refused (451) — leaves its connection closed and marked broken: it
    is never half-way through a transaction when somebody else could see it. -/
theorem failed_transaction_closes (k : Conn) (i m : Nat) (h : (transact k i m).2 ≠ .ok) :
    (transact k i m).1.closed = true ∧ ((transact k i m).1.broken = true ∨ k.closed = true) := by
  rcases transact_spec k i m with ⟨k', _, f⟩ | ⟨_, c⟩
  · rw [f.conn, ← f.closed]; exact abortConn_closed k'
  · exact absurd c.res h

/-- non-vacuity: the DATA command refused with 451 — the send fails, the peer has seen QUIT and the close, nothing else -/
example :
    let k : Conn := { tempData := some 1, hist := [.ehlo] }
    (transact k 0 0).2 = .trans ∧ (transact k 0 0).1.closed = true ∧
      (transact k 0 0).1.hist = [.eof, .quit, .dataTemp, .rcpt, .mail 0, .ehlo] := by
  decide +kernel

/-- **A transaction is whole and carries one sender's identity.** Whatever the peer does, one transaction of sender `i`
    with message `m` adds to the connection's history, in one piece: nothing but the close (the peer was gone); or
    `MAIL(i)` followed by a refused recipient, or by `RCPT` and a refused `DATA`, each followed by nothing but QUIT / the
    close; or `MAIL(i) RCPT DATA commit(i, m)`, possibly followed by the peer's own close. No event of another sender
    and no second commit can appear inside it. -/
theorem transaction_is_whole (k : Conn) (i m : Nat) :
    ∃ tail body : List SEv, (transact k i m).1.hist = tail ++ body ++ k.hist ∧
      (body = [] ∨ body = [.rcptRej, .mail i] ∨ body = [.rcptTemp, .mail i] ∨ body = [.dataTemp, .rcpt, .mail i] ∨
        body = [.commit i m, .data, .rcpt, .mail i]) ∧
      (∀ e ∈ tail, e = .quit ∨ e = .eof ∨ e = .kill) := by
  rcases transact_spec k i m with ⟨k', body, f⟩ | ⟨tail, c⟩
  · obtain ⟨tail, h3, ht⟩ := abortConn_hist k'
    refine ⟨tail, body, by rw [f.conn, h3, f.hist, List.append_assoc], ?_, fun e he => ?_⟩
    · exact f.body.imp_right (Or.imp_right (Or.imp_right .inl))
    · exact (ht e he).imp_right .inl
  · refine ⟨tail, _, c.hist, .inr (.inr (.inr (.inr rfl))), fun e he => ?_⟩
    rcases c.tail with rfl | rfl
    · cases he
    · exact .inr (.inr (List.mem_singleton.mp he))

/-- … and a broken connection is not handed back: after a send on a connection that came out broken, the sender holds
    nothing (blocking pool) and the recycle task it spawns carries no connection (tokio pool). -/
theorem broken_connection_not_returned (s : St) (i c : Nat) (r : Res) (h : (getConn s c).broken = true) :
    (finishSend s i c r).idle = s.idle ∧
    (s.isAsync = true → (finishSend s i c r).recyclers = s.recyclers ++ [none]) ∧
    (s.isAsync = false → (finishSend s i c r).recyclers = s.recyclers ∧
      ∀ t0, s.senders[i]? = some t0 → ∃ t, (finishSend s i c r).senders[i]? = some t ∧ t.holding = t0.holding) := by
  rcases finishSend_eq s i c r with ⟨ha, e⟩ | ⟨ha, -, e⟩ | ⟨-, hb, -⟩
  · rw [e, h]
    exact ⟨rfl, fun _ => rfl, fun hf => nomatch ha.symm.trans hf⟩
  · rw [e]
    refine ⟨rfl, fun ht => (nomatch ha.symm.trans ht), fun _ => ⟨rfl, fun t0 ht =>
      ⟨{ t0 with next := t0.next + 1, results := r :: t0.results }, ?_, rfl⟩⟩⟩
    rw [updSender, List.getElem?_modify_eq, ht]; rfl
  · cases h.symm.trans hb

/-- Every connection id held anywhere (parked, in use, being returned, held by the worker) is the
    id of a connection that was opened: no transition invents or loses track of a connection. -/
theorem ids_valid (isAsync : Bool) (maxSize minIdle sends nSenders : Nat)
    (plans : List Plan) (es : List Ev) (s : St)
    (hr : run (init isAsync maxSize minIdle sends nSenders plans) es = some s) : Valid s :=
  ok_valid (ok_run es _ s (ok_init isAsync maxSize minIdle sends nSenders plans) hr)

/-! Non-vacuity: two senders interleave on a pool of size 1 (check-out, check-out, return, return). -/
example : (run (init false 1 0 1 2 []) [.maintScan, .connectionLock 0, .connectionLock 1, .recycleLock 0, .recycleLock 1]).isSome = true := by
  decide +kernel

end LV.C07
