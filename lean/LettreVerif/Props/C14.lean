import LettreVerif.Proofs.Client
import LettreVerif.Proofs.Base64
import LettreVerif.Proofs.SaslPlain
/-!
# C14 — Authentication picks an offered mechanism and encodes credentials exactly
-/
namespace LV.C14
open LV LV.Client LV.Response

/-- The mechanism used is the first of the preference list that the server offers. -/
theorem mechanism_first_offered (i : ServerInfo.Info) (prefs : List Mech) (m : Mech)
    (h : chooseMech (some i) prefs = some m) :
    ∃ pre post, prefs = pre ++ m :: post ∧ m.offered i = true ∧ ∀ x ∈ pre, x.offered i = false := by
  simp only [chooseMech] at h
  obtain ⟨hm, pre, post, hp, hpre⟩ := List.find?_eq_some_iff_append.mp h
  exact ⟨pre, post, hp, hm, fun x hx => by simpa using hpre x hx⟩

/-- If none is offered, authentication fails in the client and not one octet is written. -/
theorem none_offered_nothing_sent (c : Conn) (prefs : List Mech) (u p : Bytes)
    (h : chooseMech c.info prefs = none) : c.auth prefs u p = (c, .error .client) := by
  simp [Conn.auth, h]

/-- The credential of the first AUTH line base64-decodes to exactly the mechanism's encoding:
    `NUL user NUL pass` for PLAIN, the bearer string for XOAUTH2; LOGIN sends no credential
    in its first line. -/
theorem initial_response_exact (u p : Bytes) :
    (∃ pl, authFirstLine .plain u p = str "AUTH " ++ Mech.plain.name ++ [32] ++ pl ++ CRLF ∧
        Base64.dec pl = some ([0] ++ u ++ [0] ++ p)) ∧
    (∃ pl, authFirstLine .xoauth2 u p = str "AUTH " ++ Mech.xoauth2.name ++ [32] ++ pl ++ CRLF ∧
        Base64.dec pl = some (str "user=" ++ u ++ [1] ++ str "auth=Bearer " ++ p ++ [1, 1])) ∧
    authFirstLine .login u p = str "AUTH LOGIN" ++ CRLF :=
  ⟨⟨_, rfl, Base64.dec_enc _⟩, ⟨_, rfl, Base64.dec_enc _⟩, rfl⟩

/-- **What an RFC 4616 server makes of the PLAIN response**: it base64-decodes the argument of the AUTH line and splits it at
    the NULs into authorization identity, authentication identity and password — and finds no authorization identity, exactly
    the user name and exactly the password, for every user name and password without NUL (any other octet: blanks, `=`, CR / LF,
    non-ASCII). (`Proofs/SaslPlain.lean`; with a NUL inside, the pieces shift — RFC 4616 forbids NUL in both.) -/
theorem plain_read_by_server (u p : Bytes) (hu : ∀ b ∈ u, b ≠ 0) (hp : ∀ b ∈ p, b ≠ 0) :
    ∃ pl, authFirstLine .plain u p = str "AUTH " ++ Mech.plain.name ++ [32] ++ pl ++ CRLF ∧
      (Base64.dec pl).bind SaslPlain.read = some ([], u, p) := by
  obtain ⟨⟨pl, h1, h2⟩, _⟩ := initial_response_exact u p
  exact ⟨pl, h1, by rw [h2, Option.bind_some, SaslPlain.read_plain u p hu hp]⟩

/-- the same for XOAUTH2: a server that splits the decoded response at the `^A`s and strips `user=` / `auth=Bearer ` finds
    exactly the user and exactly the token, for all `^A`-free credentials -/
theorem xoauth2_read_by_server (u t : Bytes) (hu : ∀ b ∈ u, b ≠ 1) (ht : ∀ b ∈ t, b ≠ 1) :
    ∃ pl, authFirstLine .xoauth2 u t = str "AUTH " ++ Mech.xoauth2.name ++ [32] ++ pl ++ CRLF ∧
      (Base64.dec pl).bind SaslXoauth2.read = some (u, t) := by
  obtain ⟨_, ⟨pl, h1, h2⟩, _⟩ := initial_response_exact u t
  exact ⟨pl, h1, by rw [h2, Option.bind_some, SaslXoauth2.read_xoauth2 u t hu ht]⟩

/-- non-vacuity: a password with blanks, `=` and a line break is read back; with a NUL inside the user name the server reads
    other pieces (four of them: refused) -/
example : SaslPlain.read ([0] ++ str "user" ++ [0] ++ str "p w=\r\n") = some ([], str "user", str "p w=\r\n") ∧
    SaslPlain.read ([0] ++ [117, 0, 120] ++ [0] ++ str "pw") = none := by decide +kernel

/-- A challenge is answered only by LOGIN, and only with the base64 of the user name or of the
    password (which one: user-name prompts, in any letter case, get the user name; password
    prompts the password; anything else is refused without writing). -/
theorem challenge_answers (m : Mech) (u p : Bytes) (r : Resp) (line : Bytes)
    (h : challengeAnswer m u p r = .ok line) :
    m = .login ∧ (line = Base64.enc u ++ CRLF ∨ line = Base64.enc p ++ CRLF) :=
  challengeAnswer_ok m u p r line h

theorem login_prompt_classes (u p ch : Bytes) :
    (userPrompts.any (eqIgnoreAsciiCase ch) = true → mechResponse .login u p (some ch) = some u) ∧
    (userPrompts.any (eqIgnoreAsciiCase ch) = false → passPrompts.any (eqIgnoreAsciiCase ch) = true →
      mechResponse .login u p (some ch) = some p) ∧
    (userPrompts.any (eqIgnoreAsciiCase ch) = false → passPrompts.any (eqIgnoreAsciiCase ch) = false →
      mechResponse .login u p (some ch) = none) := by
  refine ⟨?_, ?_, ?_⟩
  · intro h; simp [mechResponse, h]
  · intro h1 h2; simp [mechResponse, h1, h2]
  · intro h1 h2; simp [mechResponse, h1, h2]

/-- Everything `auth` writes, for every server behaviour: the AUTH line of the chosen
    mechanism, then at most ten answers each being the base64 of the user name or of the
    password, then at most one QUIT — nothing else is ever sent as a credential, any challenge
    sequence terminates, and success is only reported on a final reply that is not a
    challenge. -/
theorem auth_wire (c : Conn) (prefs : List Mech) (u p : Bytes) (m : Mech) (h : c.shut = false)
    (hm : chooseMech c.info prefs = some m) :
    ∃ us : List Bytes,
      ((c.auth prefs u p).1.sent = us.reverse ++ authFirstLine m u p :: c.sent ∨
       (c.auth prefs u p).1.sent = quitLine :: (us.reverse ++ authFirstLine m u p :: c.sent)) ∧
      us.length ≤ 10 ∧ (∀ x ∈ us, x = Base64.enc u ++ CRLF ∨ x = Base64.enc p ++ CRLF) ∧
      (∀ r', (c.auth prefs u p).2 = .ok r' → is334 r' = false) := by
  simp only [Conn.auth, hm]
  have hw := command_wrote c (authFirstLine m u p)
  rw [h] at hw
  cases hcmd : c.command (authFirstLine m u p) with
  | mk c1 res =>
    rw [hcmd] at hw
    have hs : c1.sent = authFirstLine m u p :: c.sent := hw.sent
    cases res with
    | error e => exact ⟨[], .inl hs, Nat.zero_le _, List.forall_mem_nil _, by rintro _ ⟨⟩⟩
    | ok r =>
      obtain ⟨us, hl, rest⟩ := authLoop_spec m u p 10 c1 r (hw.shut.trans h)
      exact ⟨us, hs ▸ hl.elim (.inl ·.sent) (·.sent_cases), rest⟩

/-- After ten challenges authentication fails whatever the server says next. -/
theorem ten_challenges_fail (m : Mech) (u p : Bytes) (c : Conn) (r : Resp) :
    authLoop m u p 0 c r = (c, .error .bad) := rfl

/-- base64 is lossless: what the server decodes is what was encoded. -/
theorem base64_lossless (x : Bytes) : Base64.dec (Base64.enc x) = some x := Base64.dec_enc x

/-- non-vacuity: LOGIN against a server that asks user name then password -/
example :
    let sc : List Step := [⟨str "220 hi\r\n", false⟩, ⟨str "250-srv\r\n250 AUTH LOGIN PLAIN\r\n", false⟩,
      ⟨str "334 VXNlcm5hbWU6\r\n", false⟩, ⟨str "334 UGFzc3dvcmQ6\r\n", false⟩, ⟨str "235 ok\r\n", false⟩]
    let c := (connect sc (str "me")).1
    (c.auth [.xoauth2, .login, .plain] (str "u") (str "pw")).1.sent.reverse =
      [str "EHLO me\r\n", str "AUTH LOGIN\r\n", str "dQ==\r\n", str "cHc=\r\n"] := by
  decide +kernel

end LV.C14
