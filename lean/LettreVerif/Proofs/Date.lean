import LettreVerif.Model.Date
/-!
# Proofs for the Date header (C17): what `civil` computes, and `toSecs ∘ civil = id`

`civil` splits the day number into 400-year cycles (`cycleSplit`; only there and for the weekday is the arithmetic
signed), 100/4/1-year steps inside a cycle (`inCycle`) and a month table counted from March (`fromMarch`); `toSecs`
counts leap years with the closed formula.  Each step gets its own statement; `civil_spec` puts them together into the record
`CivilOf`, and everything else about `civil` is read off it.
-/
namespace LV.DateProof
open LV.Date

/-- day number (days since 1970-01-01) of a civil date, as `toSecs` computes it -/
def dayNo (year mon day : Nat) : Nat :=
  let leapYears := ((year - 1) - 1968) / 4 - ((year - 1) - 1900) / 100 + ((year - 1) - 1600) / 400
  let ydays := monthOffset mon + day - 1 + (if isLeap year && mon > 2 then 1 else 0)
  (year - 1970) * 365 + leapYears + ydays

def leapBefore (year : Nat) : Nat := ((year - 1) - 1968) / 4 - ((year - 1) - 1900) / 100 + ((year - 1) - 1600) / 400

theorem dayNo_eq (year mon day : Nat) :
    dayNo year mon day = (year - 1970) * 365 + leapBefore year +
      (monthOffset mon + day - 1 + (if isLeap year && mon > 2 then 1 else 0)) := rfl

theorem toSecs_eq (c : Civil) : toSecs c = c.sec + c.min * 60 + c.hour * 3600 + dayNo c.year c.mon c.day * 86400 := rfl

/-! ## the month table -/

/-- The two month tables agree: `monthLens` (lengths, from March; `civil`) against `monthOffset` (days before the
    month, from January; `toSecs`), in the two branches of `fromMarch`. -/
theorem month_table : ∀ r < 366,
    let md := monthGo monthLens 0 r
    md.2 < 31 ∧
    if md.1 + 2 > 12 then 1 ≤ md.1 - 10 ∧ md.1 - 10 ≤ 2 ∧ 306 ≤ r ∧ monthOffset (md.1 - 10) + (md.2 + 1) + 305 = r
    else 2 < md.1 + 2 ∧ md.1 + 2 ≤ 12 ∧ r < 306 ∧ monthOffset (md.1 + 2) + (md.2 + 1) = r + 60 := by
  decide +kernel

/-- March to December of `yr` are the first 306 days after 1 March; January and February belong to `yr + 1` -/
theorem fromMarch_spec {yr r3 y m d : Nat} (h : r3 < 366) (e : fromMarch yr r3 = (y, m, d)) :
    1 ≤ d ∧ d ≤ 31 ∧
    (y = yr ∧ 2 < m ∧ m ≤ 12 ∧ r3 < 306 ∧ monthOffset m + d = r3 + 60 ∨
     y = yr + 1 ∧ 1 ≤ m ∧ m ≤ 2 ∧ 306 ≤ r3 ∧ monthOffset m + d + 305 = r3) := by
  obtain ⟨hd, T⟩ := month_table r3 h
  simp only [fromMarch] at e
  split at e <;> rename_i hc <;> cases e
  · exact ⟨Nat.succ_pos _, hd, .inr ⟨rfl, (if_pos hc).mp T⟩⟩
  · exact ⟨Nat.succ_pos _, hd, .inl ⟨rfl, (if_neg hc).mp T⟩⟩

/-! ## leap years -/

theorem isLeap_iff (y : Nat) : isLeap y = true ↔ 4 ∣ y ∧ (¬ 100 ∣ y ∨ 400 ∣ y) := by
  simp [isLeap, Nat.dvd_iff_mod_eq_zero]

/-- From 1969 on nothing in `leapBefore` is cut off at zero; 477 = 1968 / 4 - 1968 / 100 + 1968 / 400. -/
theorem leapBefore_add (m : Nat) (h : 1968 ≤ m) : leapBefore (m + 1) + m / 100 + 477 = m / 4 + m / 400 := by
  -- with the quotients nested, `m / 4 - 492 ≥ m / 100 - 19` is linear
  have hn : m / 100 * 25 ≤ m / 4 :=
    (Nat.div_div_eq_div_mul m 4 25 : m / 4 / 25 = m / 100) ▸ Nat.div_mul_le_self (m / 4) 25
  have h4 : 492 ≤ m / 4 := Nat.div_le_div_right (c := 4) h
  have h100 : 19 ≤ m / 100 := Nat.div_le_div_right (c := 100) h
  have h400 : 4 ≤ m / 400 := Nat.div_le_div_right (c := 400) h
  unfold leapBefore
  -- 1968, 1900 and 1600 are multiples of 4, 100 and 400
  rw [Nat.add_sub_cancel, Nat.sub_mul_div m 4 492, Nat.sub_mul_div m 100 19, Nat.sub_mul_div m 400 4]
  -- what is left is linear in the three quotients; `omega` is not to see them as quotients again
  generalize m / 4 = a, m / 100 = b, m / 400 = c at *
  omega

/-- The count `y / 4 - y / 100 + y / 400` goes up by one exactly at a leap year: each quotient goes up at the multiples
    of its divisor. -/
theorem isLeap_count (y : Nat) :
    (if 4 ∣ y then 1 else 0) + (if 400 ∣ y then 1 else 0) =
      (if 100 ∣ y then 1 else 0) + if isLeap y = true then 1 else 0 := by
  have h1 : 400 ∣ y → 100 ∣ y := Nat.dvd_trans (by decide)
  have h2 : 100 ∣ y → 4 ∣ y := Nat.dvd_trans (by decide)
  simp only [isLeap_iff]
  by_cases c : 400 ∣ y
  · simp [c, h1 c, h2 (h1 c)]
  · by_cases b : 100 ∣ y
    · simp [c, b, h2 b]
    · by_cases a : 4 ∣ y <;> simp [a, b, c]

theorem leapBefore_succ (yr : Nat) (h : 1969 ≤ yr) :
    leapBefore (yr + 1) = leapBefore yr + (if isLeap yr = true then 1 else 0) := by
  obtain _ | m := yr
  · exact absurd h (by decide)
  have hm : 1968 ≤ m := Nat.le_of_succ_le_succ h
  have h1 := leapBefore_add m hm
  have h2 := leapBefore_add (m + 1) (Nat.le_succ_of_le hm)
  rw [Nat.succ_div (b := 4), Nat.succ_div (b := 100), Nat.succ_div (b := 400)] at h2
  have := isLeap_count (m + 1)
  omega

theorem dayNo_jan1 (y : Nat) : dayNo y 1 1 = (y - 1970) * 365 + leapBefore y := by
  rw [dayNo_eq, decide_eq_false (by decide : ¬ 1 > 2), Bool.and_false]
  exact Nat.add_zero _

theorem dayNo_eq_jan1 (y m d : Nat) :
    dayNo y m d = dayNo y 1 1 + (monthOffset m + d - 1 + if isLeap y && m > 2 then 1 else 0) := by
  rw [dayNo_jan1, dayNo_eq]

theorem dayNo_jan1_succ (y : Nat) (h : 1970 ≤ y) :
    dayNo (y + 1) 1 1 = dayNo y 1 1 + (365 + if isLeap y = true then 1 else 0) := by
  rw [dayNo_jan1, dayNo_jan1, leapBefore_succ y (Nat.le_of_succ_le h), Nat.sub_add_comm h, Nat.add_one_mul,
    Nat.add_add_add_comm]

/-- Counted from 1 January of `yr + 1`, 306 days after 1 March of `yr`, and not from that 1 March: 1 January 1970 lies
    in the March-based year 1969, and this way no number is negative. -/
theorem fromMarch_date {yr r3 y m d : Nat} (h : r3 < 366) (e : fromMarch yr r3 = (y, m, d))
    (hy : 1969 ≤ yr) (h70 : r3 < 306 → 1970 ≤ yr) :
    1 ≤ m ∧ m ≤ 12 ∧ 1 ≤ d ∧ d ≤ 31 ∧ 1970 ≤ y ∧ dayNo y m d + 306 = dayNo (yr + 1) 1 1 + r3 := by
  rw [dayNo_eq_jan1]
  obtain ⟨d1, d31, ⟨rfl, hm, m12, hr, em⟩ | ⟨rfl, m1, hm, hr, em⟩⟩ := fromMarch_spec h e
  · -- March to December of `y`, after its leap day if it has one
    refine ⟨Nat.le_of_succ_le (Nat.le_of_succ_le hm), m12, d1, d31, h70 hr, ?_⟩
    rw [dayNo_jan1_succ y (h70 hr)]
    simp only [hm, decide_true, Bool.and_true]
    omega
  · -- January and February of `yr + 1`, before its leap day
    refine ⟨m1, Nat.le_trans hm (by decide), d1, d31, Nat.succ_le_succ hy, ?_⟩
    simp only [decide_eq_false (Nat.not_lt.mpr hm), Bool.and_false, Bool.false_eq_true, if_false]
    omega

/-! ## the day number split into cycles and years -/

/-- all that is used of Rust's `/` and `%` on `i64`, which truncate toward zero -/
theorem tdiv_tmod_spec (x : Int) {b : Int} (hb : 0 < b) :
    x = b * x.tdiv b + x.tmod b ∧ -b < x.tmod b ∧ x.tmod b < b ∧ (0 ≤ x → 0 ≤ x.tmod b) ∧ (x ≤ 0 → x.tmod b ≤ 0) := by
  refine ⟨by rw [Int.tmod_def]; omega, Int.lt_tmod_of_pos x hb, Int.tmod_lt_of_pos x hb, Int.tmod_nonneg b, fun h => ?_⟩
  have := Int.tmod_nonneg b (Int.neg_nonneg_of_nonpos h)
  rw [Int.neg_tmod] at this
  omega

/-- `cycleSplit` is division with remainder by 146097 (the days of 400 years) of the days since 2000-03-01 (day 11017);
    `j` counts the cycles from 1600-03-01, 135080 days before 1970-01-01, so that it is a natural number. -/
theorem cycleSplit_spec (n : Nat) :
    ∃ j : Nat, (cycleSplit n).1 = (j : Int) - 1 ∧ (cycleSplit n).2 < 146097 ∧
      n + 135080 = 146097 * j + (cycleSplit n).2 := by
  obtain ⟨h1, h2, h3, h4, h5⟩ := tdiv_tmod_spec ((n : Int) - 11017) (b := 146097) (by decide)
  simp only [cycleSplit]
  generalize ((n : Int) - 11017).tdiv 146097 = q at *
  generalize ((n : Int) - 11017).tmod 146097 = r at *
  refine ⟨(if r < 0 then q else q + 1).toNat, ?_⟩
  split <;> omega

/-- the calendar year of `civil`, cycle `j` counted as in `cycleSplit_spec` -/
theorem year_toNat (j yy : Nat) : (2000 + (yy : Int) + 400 * ((j : Int) - 1)).toNat = 1600 + 400 * j + yy := by
  omega

/-- the weekday fix-up of `civil`, on a day count `x` with Monday ≡ 1 -/
theorem wday_fix (x : Int) : (if x.tmod 7 ≤ 0 then x.tmod 7 + 7 else x.tmod 7) = (x - 1) % 7 + 1 := by
  obtain ⟨h1, h2, h3, h4, h5⟩ := tdiv_tmod_spec x (b := 7) (by decide)
  split <;> omega

/-- One step of `inCycle`: `r` days in `k + 1` periods of `L` days, the last a day longer (a leap day at the end), so
    that a quotient `k + 1` still belongs to period `k`; `r'` is the day in the period. -/
theorem capDiv (r L k : Nat) (hL : 0 < L) (h : r ≤ (k + 1) * L) :
    ∃ c r', (if r / L = k + 1 then k else r / L) = c ∧ r = c * L + r' ∧ c ≤ k ∧ r' ≤ L ∧ (c < k → r' < L) := by
  by_cases e : r / L = k + 1
  · rw [if_pos e]
    have h1 := Nat.div_mul_le_self r L
    rw [e] at h1
    exact ⟨k, L, rfl, Nat.succ_mul k L ▸ Nat.le_antisymm h h1, Nat.le_refl k, Nat.le_refl L,
      fun h => absurd h (Nat.lt_irrefl k)⟩
  · rw [if_neg e]
    have : r / L ≤ k + 1 := Nat.div_le_of_le_mul (Nat.mul_comm .. ▸ h)
    exact ⟨r / L, r % L, rfl, (Nat.div_add_mod' r L).symm, Nat.le_of_lt_succ (Nat.lt_of_le_of_ne this e),
      Nat.le_of_lt (Nat.mod_lt r hL), fun _ => Nat.mod_lt r hL⟩

/-- a day of a 400-year cycle in centuries `c`, 4-year groups `q` and years `y`; day 365 of a March-based year exists
    only before a leap February -/
theorem inCycle_spec (rem : Nat) (hr : rem < 146097) :
    ∃ c q y, c ≤ 3 ∧ q ≤ 24 ∧ y ≤ 3 ∧ (inCycle rem).1 = y + 4 * q + 100 * c ∧
      rem = c * 36524 + (q * 1461 + (y * 365 + (inCycle rem).2)) ∧
      (inCycle rem).2 ≤ 365 ∧ ((inCycle rem).2 = 365 → y = 3 ∧ (q = 24 → c = 3)) := by
  -- 4 · 36524 = 146096, 25 · 1461 = 36525; `r2 ≤ 4 · 365 = 1460` from `q3`, or from `c2` if `q = 24`
  obtain ⟨c, r1, hc, rfl, c1, c2, c3⟩ := capDiv rem 36524 3 (by decide) (Nat.le_of_lt_succ hr)
  obtain ⟨q, r2, hq, rfl, q1, q2, q3⟩ := capDiv r1 1461 24 (by decide) (Nat.le_succ_of_le c2)
  obtain ⟨y, r3, hy, rfl, y1, y2, y3⟩ := capDiv r2 365 3 (by decide) (by omega)
  simp only [inCycle, hc, Nat.add_sub_cancel_left, hq, hy]
  exact ⟨c, q, y, c1, q1, y1, rfl, rfl, y2, by omega⟩

theorem mul_add_div_lt {k d : Nat} (x : Nat) (h : d < k) : (k * x + d) / k = x := by
  rw [Nat.mul_add_div (Nat.zero_lt_of_lt h), Nat.div_eq_of_lt h, Nat.add_zero]

/-- The splitting of `civil` against the closed formula of `toSecs`: day `r3` of the March-based year `Y` is day `n`.
    146097 = 400 · 365 + 97, 36524 = 100 · 365 + 24, 1461 = 4 · 365 + 1. -/
theorem cycle_day {n j c q y r3 Y : Nat} (hc : c ≤ 3) (hq : q ≤ 24) (hy : y ≤ 3) (h : r3 < 366)
    (hn : n + 135080 = 146097 * j + (c * 36524 + (q * 1461 + (y * 365 + r3))))
    (hY : Y = 1600 + 400 * j + (y + 4 * q + 100 * c)) :
    1969 ≤ Y ∧ (r3 < 306 → 1970 ≤ Y) ∧ dayNo (Y + 1) 1 1 + r3 = n + 306 := by
  have hyr : 1969 ≤ Y ∧ (r3 < 306 → 1970 ≤ Y) := by omega
  refine ⟨hyr.1, hyr.2, ?_⟩
  have L := leapBefore_add Y (Nat.le_of_succ_le hyr.1)
  -- `Y / 4`, `Y / 100 = Y / 4 / 25`, `Y / 400 = Y / 100 / 4` are read off the digits `y`, `q`, `c` of `Y`, one at a time
  have hH : Y = 4 * (25 * (4 * (4 + j) + c) + q) + y := by omega
  rw [← Nat.div_div_eq_div_mul Y 100 4, ← Nat.div_div_eq_div_mul Y 4 25, hH, mul_add_div_lt _ (Nat.lt_succ_of_le hy),
    mul_add_div_lt _ (Nat.lt_succ_of_le hq), mul_add_div_lt _ (Nat.lt_succ_of_le hc), ← hH] at L
  rw [dayNo_jan1]
  omega

/-- What `civil` computes (`HttpDate::from(SystemTime)`) for `t`, seconds since 1970: the time of day, the weekday of the
    day number (1970-01-01 was a Thursday; 1 = Monday … 7 = Sunday), and a calendar date from 1970 on whose day number, as
    `toSecs` counts it, is that of `t`. -/
structure CivilOf (t : Nat) (c : Civil) : Prop where
  time : c.sec = t % 86400 % 60 ∧ c.min = t % 86400 % 3600 / 60 ∧ c.hour = t % 86400 / 3600
  wday : c.wday = (t / 86400 + 3) % 7 + 1
  mon : 1 ≤ c.mon ∧ c.mon ≤ 12
  day : 1 ≤ c.day ∧ c.day ≤ 31
  year : 1970 ≤ c.year
  dayNo : dayNo c.year c.mon c.day = t / 86400

theorem civil_spec (t : Nat) : CivilOf t (civil t) := by
  generalize hcv : civil t = cv
  obtain ⟨cs, cmi, ch, cd, cmo, cy, cw⟩ := cv
  simp only [civil, Civil.mk.injEq, wday_fix] at hcv
  obtain ⟨rfl, rfl, rfl, rfl, rfl, rfl, hw⟩ := hcv
  generalize ht : t / 86400 = n at hw
  replace hw : cw = (n + 3) % 7 + 1 := by omega
  obtain ⟨j, hj, hr, hn⟩ := cycleSplit_spec n
  generalize cycleSplit n = qr at *
  obtain ⟨c, q, y, hc, hq, hy, e1, e2, h3, _⟩ := inCycle_spec qr.2 hr
  generalize inCycle qr.2 = yd at *
  rw [hj, year_toNat]
  obtain ⟨g1, g2, g3⟩ := cycle_day hc hq hy (Nat.lt_succ_of_le h3) (e2 ▸ hn) (congrArg _ e1)
  generalize e : fromMarch _ yd.2 = fm
  obtain ⟨yr', mo, d⟩ := fm
  obtain ⟨m1, m12, d1, d31, y70, A⟩ := fromMarch_date (Nat.lt_succ_of_le h3) e g1 g2
  subst ht
  exact ⟨⟨rfl, rfl, rfl⟩, hw, ⟨m1, m12⟩, ⟨d1, d31⟩, y70, Nat.add_right_cancel (A.trans g3)⟩

theorem toSecs_civil (t : Nat) : toSecs (civil t) = t := by
  obtain ⟨hs, hm, hh⟩ := (civil_spec t).time
  -- seconds, minutes and hours are the digits of the second of the day to the base 60
  rw [toSecs_eq, hs, hm, hh, (civil_spec t).dayNo, ← Nat.mod_mod_of_dvd _ (by decide : 60 ∣ 3600),
    Nat.mod_add_div', Nat.mod_add_div', Nat.mod_add_div']

end LV.DateProof
