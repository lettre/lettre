import LettreVerif.Proofs.MailboxEnc
import LettreVerif.Model.Rfc2231Enc
import LettreVerif.Proofs.C12Roundtrip
import LettreVerif.Spec.StructuredDec
/-!
# What a reader makes of structured fields on the wire

Each writer function is followed once, with `Shows w x` (`Proofs/Rfc2047Enc.lean`), so that well-formedness of a header value
and what is read back from it are the two halves of one statement. `LV.MailboxEnc`: display names and mailbox lists.
`LV.Rfc2231Enc`: the file name of a Content-Disposition; the two loops of `rfc2231::encode` are instances of `loop_tight`, the
reader's side is `Seg` / `Reads`. The readers are those of `Spec/StructuredDec.lean`.
-/
namespace LV.MailboxEnc
open LV LV.HeaderEnc LV.Rfc2047Dec LV.StructuredDec

/-! ## what a reader shows for a display name on the wire -/

/-- `utils::write_escaped`: the text with a backslash before every backslash and double quote -/
def esc : Bytes → Bytes
  | [] => []
  | b :: bs => (if b == 92 || b == 34 then [92, b] else [b]) ++ esc bs

/-- an octet that is not escaped, or a backslash in front of a backslash or quote -/
theorem esc_cons (b : Byte) (bs : Bytes) :
    (b ≠ 92 ∧ b ≠ 34 ∧ esc (b :: bs) = b :: esc bs) ∨ ((b = 92 ∨ b = 34) ∧ esc (b :: bs) = 92 :: b :: esc bs) := by
  rw [esc]
  cases hb : b == 92 || b == 34
  · simp only [Bool.or_eq_false_iff, beq_eq_false_iff_ne] at hb
    exact .inl ⟨hb.1, hb.2, rfl⟩
  · simp only [Bool.or_eq_true, beq_iff_eq] at hb
    exact .inr ⟨hb, rfl⟩

theorem quotedGo_esc (v acc after : Bytes) : quotedGo acc (esc v ++ 34 :: after) = some (acc.reverse ++ v, after) := by
  induction v generalizing acc with
  | nil => rw [List.append_nil]; rfl
  | cons b bs ih =>
    rcases esc_cons b bs with ⟨h1, h2, e⟩ | ⟨-, e⟩ <;> rw [e]
    · rw [List.cons_append, quotedGo.eq_4 _ _ _ h2 fun _ _ e _ => h1 e, ih, List.reverse_cons, List.append_assoc]; rfl
    · rw [List.cons_append, List.cons_append, quotedGo.eq_3, ih, List.reverse_cons, List.append_assoc]; rfl

/-- not a blank, in the spelling of `trimWs`' own test (by definition `isWs b = false`) -/
def nws (b : Byte) : Prop := (b == 32 || b == 9) = false

instance : DecidablePred nws := fun b => by unfold nws; infer_instance

/-- visible ASCII that means nothing to a reader of parameters: no blank, quote, semicolon or equals sign -/
def tchar (b : Byte) : Prop := 33 ≤ b.toNat ∧ b.toNat ≤ 126 ∧ b.toNat ≠ 34 ∧ b.toNat ≠ 59 ∧ b.toNat ≠ 61

instance : DecidablePred tchar := fun b => by unfold tchar; infer_instance

variable {b : Byte}

theorem tchar.printable (h : tchar b) : printable b = true := by
  simp only [HeaderEnc.printable, Bool.or_eq_true, Bool.and_eq_true, decide_eq_true_eq]
  exact Or.inr ⟨by have := h.1; omega, h.2.1⟩

theorem tchar.ne (h : tchar b) {c : Byte} (hc : ¬ tchar c) : b ≠ c := fun e => hc (e ▸ h)

theorem tchar.nws (h : tchar b) : nws b :=
  Bool.or_eq_false_iff.mpr ⟨beq_eq_false_iff_ne.mpr (h.ne (by decide)), beq_eq_false_iff_ne.mpr (h.ne (by decide))⟩

/-- 37, 63, 92: `%`, `?`, backslash -/
theorem alnum_class (b : Byte) (h : (isAlnum b || isPlus b) = true) : tchar b ∧ b ≠ 37 ∧ b ≠ 63 ∧ b ≠ 92 := by
  have hn : ∀ c : Byte, (isAlnum c || isPlus c) = false → b ≠ c := fun c hc e => by rw [e, hc] at h; cases h
  refine ⟨?_, hn 37 (by decide), hn 63 (by decide), hn 92 (by decide)⟩
  simp only [isAlnum, isPlus, Bool.or_eq_true, Bool.and_eq_true, decide_eq_true_eq, beq_iff_eq] at h
  rcases h with h | (h | h) | h
  · unfold tchar; omega
  all_goals subst h; decide

theorem dropWhile_head {p : Byte → Bool} : ∀ (s : Bytes), (∀ x, s.head? = some x → p x = false) → s.dropWhile p = s
  | [], _ => rfl
  | x :: _, h => List.dropWhile_cons_of_neg (by simp [h x rfl])

theorem trimWs_id (s : Bytes) (h1 : ∀ x, s.head? = some x → nws x) (h2 : ∀ x, s.getLast? = some x → nws x) :
    trimWs s = s := by
  unfold trimWs
  simp only
  rw [dropWhile_head s h1, dropWhile_head s.reverse (by rwa [List.head?_reverse]), List.reverse_reverse]

theorem phraseDecode_quoted (v : Bytes) : phraseDecode (34 :: (esc v ++ [34])) = some v := by
  have ht : trimWs (34 :: (esc v ++ [34])) = 34 :: (esc v ++ [34]) := by
    apply trimWs_id
    · intro x hx; cases hx; decide
    · intro x hx
      rw [← List.cons_append, List.getLast?_concat] at hx
      cases hx; decide
  unfold phraseDecode
  simp only [ht]
  rw [quotedGo_esc v [] []]
  rfl

theorem decode_no_qmark (v : Bytes) (h : ∀ b ∈ v, b ≠ 63) : decToks (tokens v [] false) false = v := by
  have hf : C12Proof.EncFree' v := by
    intro u hu
    apply C12Proof.not_marker_not_enc
    -- a token that ends in `?=` has a `?`
    have : (u.drop (u.length - 2) == [63, 61]) = false :=
      beq_eq_false_iff_ne.mpr fun e =>
        C12Proof.wsTokens_all (· ≠ 63) v [] (List.forall_mem_nil _) h u hu 63 (List.mem_of_mem_drop (e ▸ List.mem_cons_self)) rfl
    rw [this, Bool.and_false]
  exact decode_lit v false (C12Proof.encFree_of v hf)

theorem phraseDecode_words (p : Bytes) (hh : ∀ y, p.head? = some y → nws y ∧ y ≠ 34) (hl : ∀ y, p.getLast? = some y → nws y) :
    phraseDecode p = some (decToks (tokens p [] false) false) := by
  unfold phraseDecode
  simp only [trimWs_id p (fun y hy => (hh y hy).1) hl]
  split
  · exact absurd rfl (hh 34 rfl).2
  · rfl

theorem phraseDecode_plain (v : Bytes) (h : ∀ b ∈ v, (isAlnum b || isPlus b) = true) : phraseDecode v = some v := by
  rw [phraseDecode_words v, decode_no_qmark v fun b hb => (alnum_class b (h b hb)).2.2.1]
  · intro y hy
    have := (alnum_class y (h y (List.mem_of_mem_head? hy))).1
    exact ⟨this.nws, this.ne (by decide)⟩
  · intro y hy; exact (alnum_class y (h y (List.mem_of_getLast? hy))).1.nws

theorem phraseDecode_run (ds : List Bytes) (hne : ds ≠ []) (hgood : ∀ d ∈ ds, d ≠ [] ∧ d.length ≤ 45) :
    phraseDecode (run1 ds) = some ds.flatten := by
  have hdec := C12Proof.decode_run1 ds hne hgood
  obtain ⟨mid, dl, e, -⟩ := C12Proof.run1_split ds hne hgood
  -- the run begins and ends with `=`
  rw [phraseDecode_words, hdec]
  · intro y hy
    obtain ⟨d, ds', rfl⟩ := List.exists_cons_of_ne_nil hne
    cases Option.some.inj hy
    decide
  · intro y hy
    rw [e, encw, List.getLast?_append, List.getLast?_append] at hy
    cases Option.some.inj hy
    decide

/-! ## the writer of a display name -/

variable {w : W} {x : Bytes}

theorem shows_writeChar (h : Shows w x) (c : Byte) (hc : printable c = true) : Shows (writeChar w c) (x ++ [c]) :=
  h.writeStr [c] (plain_single hc)

/-- `utils::write_escaped` over any way `ws` of writing a string and `wc` of writing a character -/
theorem shows_esc {f : W → Bytes → W} {ws : W → Bytes → W} {wc : W → Byte → W} (hnil : ∀ w, f w [] = w)
    (hcons : ∀ w b bs, f w (b :: bs) = f (if b == 92 then ws w [92, 92] else if b == 34 then ws w [92, 34] else wc w b) bs)
    (hws : ∀ {w x}, Shows w x → ∀ s, Plain s → Shows (ws w s) (x ++ s))
    (hwc : ∀ {w x}, Shows w x → ∀ c, printable c = true → Shows (wc w c) (x ++ [c])) :
    ∀ (v : Bytes) {w : W} {x : Bytes}, Shows w x → Plain v → Shows (f w v) (x ++ esc v) := by
  intro v
  induction v with
  | nil => intro _ _ h _; rw [hnil]; exact (List.append_nil _).symm ▸ h
  | cons b bs ih =>
    intro w x h hv
    obtain ⟨hb, hbs⟩ := List.forall_mem_cons.mp hv
    have step : ∀ {w' : W} (piece : Bytes), Shows w' (x ++ piece) → esc (b :: bs) = piece ++ esc bs →
        Shows (f w' bs) (x ++ esc (b :: bs)) := fun piece h' e => by
      rw [e, ← List.append_assoc]
      exact ih h' hbs
    rw [hcons]
    rcases esc_cons b bs with ⟨h1, h2, e⟩ | ⟨rfl | rfl, e⟩
    · rw [if_neg (mt eq_of_beq h1), if_neg (mt eq_of_beq h2)]
      exact step [b] (hwc h b hb) e
    · exact step [92, 92] (hws h _ (by decide)) e
    · exact step [92, 34] (hws h _ (by decide)) e

theorem shows_writeEscaped (v : Bytes) (h : Shows w x) (hv : Plain v) : Shows (writeEscaped w v) (x ++ esc v) :=
  shows_esc (f := writeEscaped) (ws := foldWrite) (wc := fun w c => foldWrite w [c]) (fun _ => rfl) (fun _ _ _ => rfl)
    Shows.foldWrite (fun h c hc => h.foldWrite [c] (plain_single hc)) v h hv

theorem esc_id (v : Bytes) (h : ∀ b ∈ v, b ≠ 92 ∧ b ≠ 34) : esc v = v := by
  induction v with
  | nil => rfl
  | cons b bs ih =>
    have hb := h b List.mem_cons_self
    simp [esc, hb.1, hb.2, ih fun y hy => h y (List.mem_cons_of_mem _ hy)]

theorem shows_unbreakable (h : Shows w x) (word : Bytes) (hw : Plain word) : Shows (writeUnbreakable w word) (x ++ word) := by
  unfold writeUnbreakable
  simp only
  split
  · rename_i hc
    simp only [Bool.and_eq_true, decide_eq_true_eq] at hc
    exact (h.newLine (h.inv.norm (by omega)) (by omega)).writeStr word hw
  · exact h.writeStr word hw

/-- the classes of the second and third scanning loop -/
theorem class_quoted (b : Byte) (h : (isAlnum b || b == 32 || isPlus b) = true) : printable b = true ∧ b ≠ 92 ∧ b ≠ 34 := by
  simp only [Bool.or_eq_true, beq_iff_eq] at h
  have ha : (isAlnum b || isPlus b) = true → printable b = true ∧ b ≠ 92 ∧ b ≠ 34 := fun h =>
    have := alnum_class b h; ⟨this.1.printable, this.2.2.2, this.1.ne (by decide)⟩
  rcases h with (h | h) | h
  · exact ha (by simp [h])
  · subst h; decide
  · exact ha (by simp [h])

theorem class_escaped (b : Byte) (h : (isAlnum b || b == 92 || b == 34 || b == 32 || isPlus b) = true) : printable b = true := by
  simp only [Bool.or_eq_true, beq_iff_eq] at h
  rcases h with (((h | h) | h) | h) | h
  · exact (alnum_class b (by simp [h])).1.printable
  · subst h; decide
  · subst h; decide
  · subst h; decide
  · exact (alnum_class b (by simp [h])).1.printable

theorem name_shows (h : Shows w x) (v : Bytes) (hu : ContRunsLe3 v) :
    ∃ R, Shows (quotedStringEncode w v) (x ++ R) ∧ phraseDecode R = some v := by
  have hs := strategy_spec v
  have hq := shows_writeChar h 34 (by decide)
  unfold quotedStringEncode
  generalize strategy v = st at hs ⊢
  cases st
  · -- an atom
    exact ⟨v, h.writeStr v fun b hb => (alnum_class b (hs b hb)).1.printable, phraseDecode_plain v hs⟩
  · -- a quoted string without quoted-pairs
    refine ⟨34 :: (esc v ++ [34]), ?_, phraseDecode_quoted v⟩
    rw [esc_id v fun b hb => (class_quoted b (hs b hb)).2]
    simpa using shows_writeChar (hq.foldWrite v fun b hb => (class_quoted b (hs b hb)).1) 34 (by decide)
  · -- a quoted string with quoted-pairs
    refine ⟨34 :: (esc v ++ [34]), ?_, phraseDecode_quoted v⟩
    simpa using shows_writeChar (shows_writeEscaped v hq fun b hb => class_escaped b (hs b hb)) 34 (by decide)
  · -- encoded-words
    obtain ⟨ds, hflat, hgood, hi, hview⟩ := rfc_view (2 * v.length + 4) w v false
      (Nat.succ_le_succ (Nat.add_le_add_left (by split <;> decide) _)) hu h.inv (by intro h; cases h)
    refine ⟨run1 ds, ⟨hi, by simpa [h.view] using hview⟩, ?_⟩
    rw [← hflat]
    exact phraseDecode_run ds (by intro e; subst e; exact hs hflat.symm) hgood

/-- `C12.display_name_roundtrip`: `name_shows` from `Inv w` alone -/
theorem name_wire (w : W) (hi : Inv w) (v : Bytes) (hu : ContRunsLe3 v) :
    ∃ R, (quotedStringEncode w v).view = w.view ++ R ∧ phraseDecode R = some v := by
  obtain ⟨R, hR, hd⟩ := name_shows ⟨hi, rfl⟩ v hu
  exact ⟨R, hR.view, hd⟩

/-! ## a whole list on the wire -/

/-- one mailbox in the unfolded header: the address, or a phrase that is shown as the name, a blank, and the address in
    angle brackets -/
def ItemOf (m : Option Bytes × Bytes) (t : Bytes) : Prop :=
  match m.1 with
  | none => t = m.2
  | some n => ∃ R, t = R ++ [32, 60] ++ m.2 ++ [62] ∧ phraseDecode R = some n

/-- the unfolded header value of a list: the items, `, ` between them -/
inductive Shown : List (Option Bytes × Bytes) → Bytes → Prop
  | nil : Shown [] []
  | one (m : Option Bytes × Bytes) (t : Bytes) : ItemOf m t → Shown [m] t
  | cons (m : Option Bytes × Bytes) (t : Bytes) (ms : List (Option Bytes × Bytes)) (ts : Bytes) : ms ≠ [] →
      ItemOf m t → Shown ms ts → Shown (m :: ms) (t ++ [44, 32] ++ ts)

theorem item_shows (h : Shows w x) (m : Option Bytes × Bytes) (hn : ∀ n, m.1 = some n → ContRunsLe3 n) (he : Plain m.2) :
    ∃ t, Shows (mailboxEncode w m.1 m.2) (x ++ t) ∧ ItemOf m t := by
  obtain ⟨n?, e⟩ := m
  cases n? with
  | none => exact ⟨e, shows_unbreakable h e he, rfl⟩
  | some n =>
    obtain ⟨R, hR, hd⟩ := name_shows h n (hn n rfl)
    have hplain : Plain ([60] ++ e ++ [62]) := (Plain.append (by decide) he).append (by decide)
    exact ⟨R ++ [32, 60] ++ e ++ [62], by simpa [mailboxEncode] using shows_unbreakable hR.space _ hplain, R, rfl, hd⟩

theorem list_shows : ∀ (m : Option Bytes × Bytes) (rest : List (Option Bytes × Bytes)) {w : W} {x : Bytes} (first : Bool),
    Shows w x → (∀ m' ∈ m :: rest, (∀ n, m'.1 = some n → ContRunsLe3 n) ∧ Plain m'.2) →
    ∃ ts, Shown (m :: rest) ts ∧ Shows (mailboxesEncode w (m :: rest) first) (x ++ (if first then [] else [44, 32]) ++ ts)
  | m, rest, w, x, first, h, hm => by
    have h0 := hm m List.mem_cons_self
    have hsep : Shows (if first then w else (writeChar w 44).space) (x ++ (if first then [] else [44, 32])) := by
      cases first
      · simpa using (shows_writeChar h 44 (by decide)).space
      · simpa using h
    obtain ⟨t, ht, hit⟩ := item_shows hsep m h0.1 h0.2
    have hstep : mailboxesEncode w (m :: rest) first =
        mailboxesEncode (mailboxEncode (if first then w else (writeChar w 44).space) m.1 m.2) rest false := rfl
    rw [hstep]
    cases rest with
    | nil => exact ⟨t, Shown.one m t hit, ht⟩
    | cons m2 rest2 =>
      obtain ⟨ts, hsh, hts⟩ := list_shows m2 rest2 false ht (fun y hy => hm y (List.mem_cons_of_mem _ hy))
      exact ⟨t ++ [44, 32] ++ ts, Shown.cons m t (m2 :: rest2) ts (List.cons_ne_nil _ _) hit hsh,
        by simpa only [List.append_assoc, Bool.false_eq_true, if_false] using hts⟩

theorem header_shows (nameLen : Nat) (ms : List (Option Bytes × Bytes))
    (hm : ∀ m ∈ ms, (∀ n, m.1 = some n → ContRunsLe3 n) ∧ Plain m.2) :
    scan .norm (headerValue nameLen ms) = some .norm ∧ Shown ms (HeaderReader.unfold (headerValue nameLen ms)) := by
  unfold headerValue
  cases ms with
  | nil =>
    have := (tight_start (nameLen + 2)).shows.flush
    exact ⟨this.1, this.2 ▸ Shown.nil⟩
  | cons m rest =>
    obtain ⟨ts, hsh, hts⟩ := list_shows m rest true (tight_start (nameLen + 2)).shows hm
    exact ⟨hts.flush.1, by rw [hts.flush.2]; simpa using hsh⟩

/-- `C02.mailbox_header_wf` -/
theorem mailboxHeader_wf (nameLen : Nat) (ms : List (Option Bytes × Bytes))
    (hm : ∀ m ∈ ms, (∀ n, m.1 = some n → ContRunsLe3 n) ∧ Plain m.2) :
    scan .norm (headerValue nameLen ms) = some .norm :=
  (header_shows nameLen ms hm).1

/-- `C12.mailbox_header_read_back` -/
theorem mailboxes_wire (nameLen : Nat) (ms : List (Option Bytes × Bytes))
    (hm : ∀ m ∈ ms, (∀ n, m.1 = some n → ContRunsLe3 n) ∧ Plain m.2) :
    Shown ms (HeaderReader.unfold (headerValue nameLen ms)) :=
  (header_shows nameLen ms hm).2

/-- **One named mailbox on the wire.** Unfolded, the header value is a phrase, one blank, and the address in angle
    brackets; a reader shows the phrase as exactly the name, whatever the name. -/
theorem named_mailbox_wire (nameLen : Nat) (n e : Bytes) (hu : ContRunsLe3 n) (he : Plain e) :
    ∃ R, HeaderReader.unfold (headerValue nameLen [(some n, e)]) = R ++ [32, 60] ++ e ++ [62] ∧ phraseDecode R = some n := by
  obtain ⟨t, ht, hit⟩ := item_shows (tight_start (nameLen + 2)).shows (some n, e) (fun _ h => Option.some.inj h ▸ hu) he
  show ItemOf (some n, e) _
  rw [show HeaderReader.unfold (headerValue nameLen [(some n, e)]) = t from ht.flush.2]
  exact hit

end LV.MailboxEnc

namespace LV.Rfc2231Enc
open LV LV.HeaderEnc LV.MailboxEnc LV.StructuredDec

/-! ## the writer of `rfc2231::encode` -/

theorem writeCharB_eq (w : W) (c : Byte) (h : c ≠ 32) : writeCharB w c = w.writeStr [c] := by
  have hc : (c == 32) = false := beq_eq_false_iff_ne.mpr h
  simp [writeCharB, hc, W.writeStr, trimEnd_id [c] fun b hb => List.mem_singleton.mp hb ▸ h, W.flushSpaces]

variable {w : W} {x : Bytes}

theorem _root_.LV.HeaderEnc.Shows.charB (h : Shows w x) (c : Byte) (hc : printable c = true) : Shows (writeCharB w c) (x ++ [c]) := by
  by_cases e : c = 32
  · subst e; exact h.space
  · rw [writeCharB_eq w c e]; exact h.writeStr [c] (plain_single hc)

theorem _root_.LV.HeaderEnc.Shows.charB_tight (h : Shows w x) (c : Byte) (hc : printable c = true) (e : c ≠ 32) :
    Tight (writeCharB w c) (x ++ [c]) := by
  rw [writeCharB_eq w c e]; exact h.writeStr_tight [c] (plain_single hc) fun b hb => List.mem_singleton.mp hb ▸ e

theorem _root_.LV.HeaderEnc.Tight.writeIf (h : Tight w x) (c : Bool) (s : Bytes) (hs : Plain s) (h32 : ∀ b ∈ s, b ≠ 32) :
    Tight (if c then w.writeStr s else w) (x ++ if c then s else []) ∧
      (if c then w.writeStr s else w).lineLen ≤ w.lineLen + s.length := by
  cases c
  · exact ⟨(List.append_nil x).symm ▸ h, Nat.le_add_right _ _⟩
  · exact (h.writeStr s hs h32).imp_right Nat.le_of_eq

theorem shows_escapedW (v : Bytes) (h : Shows w x) (hv : Plain v) : Shows (writeEscapedW w v) (x ++ esc v) :=
  shows_esc (f := writeEscapedW) (fun _ => rfl) (fun _ _ _ => rfl) Shows.writeStr Shows.charB v h hv

def Safe (s : Bytes) : Prop := ∀ b ∈ s, tchar b

instance (s : Bytes) : Decidable (Safe s) := inferInstanceAs (Decidable (∀ b ∈ s, tchar b))

theorem Safe.nil : Safe [] := fun _ h => nomatch h

theorem Safe.append {s t : Bytes} (hs : Safe s) (ht : Safe t) : Safe (s ++ t) := fun b hb =>
  (List.mem_append.mp hb).elim (hs b) (ht b)

theorem Safe.plain {s : Bytes} (h : Safe s) : Plain s := fun b hb => (h b hb).printable

theorem Safe.no32 {s : Bytes} (h : Safe s) : ∀ b ∈ s, b ≠ 32 := fun b hb => (h b hb).ne (by decide)

theorem digit_byte (d : Nat) (h : d < 10) : 48 ≤ (48 + d).toUInt8.toNat ∧ (48 + d).toUInt8.toNat ≤ 57 :=
  (by decide : ∀ k : Fin 10, 48 ≤ (48 + k.val).toUInt8.toNat ∧ (48 + k.val).toUInt8.toNat ≤ 57) ⟨d, h⟩

theorem digits_chars (n : Nat) : ∀ b ∈ digits n, 48 ≤ b.toNat ∧ b.toNat ≤ 57 := by
  induction n using digits.induct with
  | case1 n h =>
    intro b hb
    rw [digits, if_pos h, List.mem_singleton] at hb
    exact hb ▸ digit_byte n h
  | case2 n h ih =>
    intro b hb
    rw [digits, if_neg h] at hb
    rcases List.mem_append.mp hb with hb | hb
    · exact ih b hb
    · exact List.mem_singleton.mp hb ▸ digit_byte (n % 10) (Nat.mod_lt _ (by decide))

theorem safe_digits (n : Nat) : Safe (digits n) := fun b hb => by
  have := digits_chars n b hb; unfold tchar; omega

theorem digits_ne (n : Nat) : digits n ≠ [] := by
  unfold digits; split <;> simp

theorem digits_len (n : Nat) : ∀ k, n < 10 ^ (k + 1) → (digits n).length ≤ k + 1 := by
  induction n using digits.induct with
  | case1 n h => intro k _; rw [digits, if_pos h]; exact Nat.le_add_left 1 k
  | case2 n h ih =>
    intro k hn
    rw [digits, if_neg h, List.length_append]
    cases k with
    | zero => exact absurd hn h
    | succ k => exact Nat.succ_le_succ (ih k (Nat.div_lt_of_lt_mul (by rwa [Nat.pow_succ, Nat.mul_comm] at hn)))

/-- a parameter name that `rfc2231::encode` can continue over lines: with it, an index of up to twenty digits and
    `utf-8''` a line is still shorter than 61, so that it takes at least one character -/
structure KeyOk (key : Bytes) : Prop where
  safe : Safe key
  ne : key ≠ []
  len : key.length < 30

theorem keyOk_filename : KeyOk filenameKey := ⟨by decide, by decide, by decide⟩

variable {key : Bytes}

/-- the start of a continuation line: a blank, `key*i`, and `tail` (`="` or `*=`) -/
def segHead (key : Bytes) (i : Nat) (tail : Bytes) (w : W) : W :=
  ((((w.writeStr [32]).writeStr key).writeStr [42]).writeStr (digits i)).writeStr tail

theorem seg_head (hk : KeyOk key) {p : W} (h : Tight p x) (i : Nat) (hi : i < 10 ^ 20) (tail : Bytes) (ht : Plain tail)
    (ht32 : ∀ b ∈ tail, b ≠ 32) :
    Tight (segHead key i tail p.newLine) (x ++ [32] ++ key ++ [42] ++ digits i ++ tail) ∧
      (segHead key i tail p.newLine).lineLen ≤ 51 + tail.length := by
  have hlen : 1 + key.length + 1 + (digits i).length ≤ 51 := by
    have := digits_len i 19 hi
    have := hk.len
    omega
  obtain ⟨t1, l1⟩ := h.lead key hk.safe.plain hk.safe.no32
  obtain ⟨t2, l2⟩ := t1.writeStr [42] (by decide) (by decide)
  obtain ⟨t3, l3⟩ := t2.writeStr (digits i) (safe_digits i).plain (safe_digits i).no32
  obtain ⟨t4, l4⟩ := t3.writeStr tail ht ht32
  rw [segHead, l4, l3, l2, l1]
  exact ⟨t4, Nat.add_le_add_right hlen _⟩

/-! ## percent-encoding -/

def pctByte (b : Byte) : Bytes := [37, hexDigit (b.toNat / 16), hexDigit (b.toNat % 16)]

/-- `percent_encode_char` as text -/
def pctChar (c : Bytes) : Bytes :=
  match c with
  | [b] => if isAlnum b || isPlus b then [b] else pctByte b
  | _ => c.flatMap pctByte

theorem pctByte_fold (w : W) (b : Byte) : (pctByte b).foldl writeCharB w =
    writeCharB (writeCharB (writeCharB w 37) (hexDigit (b.toNat / 16))) (hexDigit (b.toNat % 16)) := by
  simp only [pctByte, List.foldl_cons, List.foldl_nil]

theorem percentChar_eq (w : W) (c : Bytes) : percentChar w c = (pctChar c).foldl writeCharB w := by
  match c with
  | [] => show w = _; rfl
  | [b] => rw [percentChar, pctChar, apply_ite (List.foldl writeCharB w), pctByte_fold]; rfl
  | b :: b2 :: r =>
    show _ = ((b :: b2 :: r).flatMap pctByte).foldl writeCharB w
    simp only [List.foldl_flatMap, pctByte_fold]
    rfl

theorem hex_facts (n : Nat) (h : n < 16) : tchar (hexDigit n) ∧ StructuredDec.hexVal (hexDigit n) = some n :=
  (by decide +kernel : ∀ n : Fin 16, tchar (hexDigit n.val) ∧ StructuredDec.hexVal (hexDigit n.val) = some n.val) ⟨n, h⟩

theorem safe_pctByte (b : Byte) : Safe (pctByte b) := by
  have h := b.toNat_lt
  intro y hy
  simp only [pctByte, List.mem_cons, List.not_mem_nil, or_false] at hy
  rcases hy with rfl | rfl | rfl
  · decide
  · exact (hex_facts _ (Nat.div_lt_of_lt_mul h)).1
  · exact (hex_facts _ (Nat.mod_lt _ (by decide))).1

theorem pctChar_cases (c : Bytes) :
    (∃ b, (isAlnum b || isPlus b) = true ∧ c = [b] ∧ pctChar c = [b]) ∨ pctChar c = c.flatMap pctByte := by
  unfold pctChar
  split
  · rename_i b
    split
    · exact .inl ⟨b, ‹_›, rfl, rfl⟩
    · exact .inr (List.flatMap_singleton pctByte b).symm
  · exact .inr rfl

theorem safe_pctChar (c : Bytes) : Safe (pctChar c) := by
  rcases pctChar_cases c with ⟨b, ha, _, e⟩ | e <;> rw [e] <;> intro y hy
  · rw [List.mem_singleton.mp hy]; exact (alnum_class b ha).1
  · obtain ⟨b, _, hb⟩ := List.mem_flatMap.mp hy
    exact safe_pctByte b y hb

theorem percentDecode_byte (b : Byte) (r : Bytes) :
    percentDecode (pctByte b ++ r) = (percentDecode r).map (b :: ·) := by
  have h := b.toNat_lt
  show percentDecode (37 :: hexDigit (b.toNat / 16) :: hexDigit (b.toNat % 16) :: r) = _
  rw [percentDecode.eq_2, (hex_facts _ (Nat.div_lt_of_lt_mul h)).2, (hex_facts _ (Nat.mod_lt _ (by decide))).2]
  cases percentDecode r with
  | none => rfl
  | some r' => show some (UInt8.ofNat _ :: r') = _; rw [Nat.div_add_mod', UInt8.ofNat_toNat]; rfl

theorem percentDecode_bytes (c r : Bytes) : percentDecode (c.flatMap pctByte ++ r) = (percentDecode r).map (c ++ ·) := by
  induction c with
  | nil => simp
  | cons b c ih =>
    simp only [List.flatMap_cons, List.append_assoc]
    rw [percentDecode_byte, ih]
    cases percentDecode r <;> simp

theorem percentDecode_char (c r : Bytes) : percentDecode (pctChar c ++ r) = (percentDecode r).map (c ++ ·) := by
  rcases pctChar_cases c with ⟨b, ha, rfl, e⟩ | e <;> rw [e]
  · have hb : b ≠ 37 := (alnum_class b ha).2.1
    rw [List.singleton_append, percentDecode.eq_3 _ _ (by intro h l rest e _; exact hb e), if_neg hb]
    rfl
  · exact percentDecode_bytes c r

theorem tight_chars : ∀ (t : Bytes) {w : W} {x : Bytes}, Tight w x → Safe t →
    Tight (t.foldl writeCharB w) (x ++ t) := by
  intro t
  induction t with
  | nil => intro _ x h _; exact (List.append_nil x).symm ▸ h
  | cons c t ih =>
    intro _ _ h ht
    have hc := ht c List.mem_cons_self
    have := ih (h.shows.charB_tight c hc.printable (hc.ne (by decide))) (fun y hy => ht y (List.mem_cons_of_mem _ hy))
    simpa using this

theorem firstChar_split (b : Byte) (r : Bytes) :
    firstChar (b :: r) ++ (b :: r).drop (firstChar (b :: r)).length = b :: r :=
  List.prefix_iff_eq_append.mp (List.cons_prefix_cons.mpr ⟨rfl, List.takeWhile_prefix isCont⟩)

/-- the characters percent-encoded on one line: their text `t` is read back as the octets `c` taken from the value -/
theorem encLine_tight : ∀ (fuel : Nat) {w : W} {x : Bytes} (v : Bytes), Tight w x →
    ∃ t c, Tight (encLine fuel w v).1 (x ++ t) ∧ Safe t ∧ percentDecode t = some c ∧ c ++ (encLine fuel w v).2 = v ∧
      (1 ≤ fuel → w.lineLen < maxLineLen - 15 → v ≠ [] → c ≠ []) := by
  intro fuel
  induction fuel with
  | zero => exact fun v h => ⟨[], [], (List.append_nil _).symm ▸ h, Safe.nil, rfl, rfl, fun h => nomatch h⟩
  | succ fuel ih =>
    intro w x v h
    unfold encLine
    split
    · cases v with
      | nil => exact ⟨[], [], (List.append_nil x).symm ▸ h, Safe.nil, rfl, rfl, fun _ _ e => absurd rfl e⟩
      | cons b r =>
        simp only
        rw [percentChar_eq]
        obtain ⟨t, c, h1, h2, h3, h4, _⟩ := ih ((b :: r).drop (firstChar (b :: r)).length)
          (tight_chars (pctChar (firstChar (b :: r))) h (safe_pctChar _))
        refine ⟨pctChar (firstChar (b :: r)) ++ t, firstChar (b :: r) ++ c, by rw [← List.append_assoc]; exact h1,
          (safe_pctChar _).append h2, by rw [percentDecode_char, h3]; rfl, by rw [List.append_assoc, h4, firstChar_split],
          fun _ _ _ => by simp [firstChar]⟩
    · rename_i hl
      exact ⟨[], [], (List.append_nil x).symm ▸ h, Safe.nil, rfl, rfl, fun _ h2 => absurd h2 hl⟩

/-! ## the reader of parameters -/

/-- text that `splitParams` passes over outside quotes and leaves outside quotes: no `;` in it separates -/
def Whole (s : Bytes) : Prop := ∀ r acc, splitParams (s ++ r) acc false = splitParams r (s.reverse ++ acc) false

theorem whole_run (u : Bytes) (h : ∀ b ∈ u, b ≠ 34 ∧ b ≠ 59) : Whole u := by
  induction u with
  | nil => exact fun r acc => rfl
  | cons b u ih =>
    intro r acc
    have hb := h b List.mem_cons_self
    rw [List.cons_append, splitParams.eq_5, ih (fun y hy => h y (List.mem_cons_of_mem _ hy))]
    · simp
    · intro c; exact hb.1 c
    · intro _ _ hq; cases hq
    · intro _ c; exact hb.2 c

theorem Safe.whole {s : Bytes} (h : Safe s) : Whole s := whole_run s fun b hb => ⟨(h b hb).ne (by decide), (h b hb).ne (by decide)⟩

theorem Whole.append {s t : Bytes} (hs : Whole s) (ht : Whole t) : Whole (s ++ t) := by
  intro r acc
  rw [List.append_assoc, hs, ht, List.reverse_append, List.append_assoc]

theorem splitParams_esc (v acc r : Bytes) :
    splitParams (esc v ++ 34 :: r) acc true = splitParams r (34 :: ((esc v).reverse ++ acc)) false := by
  induction v generalizing acc with
  | nil => rfl
  | cons b bs ih =>
    rcases esc_cons b bs with ⟨h1, h2, e⟩ | ⟨-, e⟩ <;> rw [e]
    · rw [List.cons_append, splitParams.eq_5 _ _ _ _ h2 (fun _ _ _ e _ => h1 e) (fun e _ => Bool.noConfusion e), ih,
        List.reverse_cons, List.append_assoc]
      rfl
    · rw [List.cons_append, List.cons_append, splitParams.eq_2, ih, List.reverse_cons, List.reverse_cons, List.append_assoc,
        List.append_assoc]
      rfl

theorem whole_quoted (c : Bytes) : Whole (34 :: (esc c ++ [34])) := by
  intro r acc
  rw [List.cons_append, List.append_assoc, splitParams.eq_3, Bool.not_false, List.singleton_append, splitParams_esc]
  simp

/-- the unfolded text of one parameter segment, ` key sfx = val` -/
def segText (key sfx val : Bytes) : Bytes := [32] ++ key ++ sfx ++ [61] ++ val

theorem whole_segText (hk : KeyOk key) {sfx val : Bytes} (hs : Safe sfx) (hv : Whole val) : Whole (segText key sfx val) :=
  ((((whole_run [32] (by decide)).append hk.safe.whole).append hs.whole).append (whole_run [61] (by decide))).append hv

theorem takeWhile_key2 (k r : Bytes) (h : ∀ b ∈ k, b ≠ 61) : (k ++ 61 :: r).takeWhile (· != 61) = k :=
  takeWhile_ne_append h r

/-- `sfx` is what may stand between the name of a parameter and `=`: nothing, `*i` or `*i*`; `ext`: it ends in `*` -/
structure Sfx (sfx : Bytes) (ext : Bool) : Prop where
  safe : Safe sfx
  all : sfx.all (fun b => b == 42 || (48 ≤ b.toNat && b.toNat ≤ 57)) = true
  ext : (sfx.getLast? == some 42 && !sfx.isEmpty) = ext

theorem sfx_nil : Sfx [] false := ⟨Safe.nil, rfl, rfl⟩

theorem sfx_cont (i : Nat) : Sfx (42 :: digits i) false := by
  have hd := digits_chars i
  refine ⟨Safe.append (s := [42]) (by decide) (safe_digits i), ?_, ?_⟩
  · rw [List.all_cons, List.all_eq_true.mpr fun b hb => by simp [hd b hb]]
    rfl
  · have hy := hd _ (List.getLast_mem (digits_ne i))
    have : (digits i).getLast (digits_ne i) ≠ 42 := fun e => by rw [e] at hy; simp at hy
    simp [List.getLast?_cons, List.getLast?_eq_some_getLast (digits_ne i), this]

theorem sfx_ext (i : Nat) : Sfx (42 :: digits i ++ [42]) true :=
  ⟨(sfx_cont i).safe.append (by decide), by rw [List.all_append, (sfx_cont i).all]; rfl, by rw [List.getLast?_concat]; rfl⟩

theorem segment_segText (hk : KeyOk key) {sfx : Bytes} {ext : Bool} (hs : Sfx sfx ext) (val : Bytes)
    (hv : ∀ b, val.getLast? = some b → nws b) :
    (∀ rest, val = 34 :: rest → segment key (segText key sfx val) = (quotedGo [] rest).map fun (c, _) => (ext, c)) ∧
    ((∀ rest, val ≠ 34 :: rest) → segment key (segText key sfx val) = some (ext, val)) := by
  have ht : trimWs (segText key sfx val) = (key ++ sfx) ++ 61 :: val := by
    have : trimWs (segText key sfx val) = trimWs ((key ++ sfx) ++ 61 :: val) := by
      simp only [segText, List.append_assoc, List.singleton_append]; rfl
    rw [this]
    apply trimWs_id
    · intro y hy
      obtain ⟨k0, kr, e⟩ := List.exists_cons_of_ne_nil hk.ne
      rw [e] at hy
      cases hy
      exact (hk.safe y (e ▸ List.mem_cons_self)).nws
    · intro y hy
      rw [List.getLast?_append, List.getLast?_cons, Option.some_or] at hy
      cases hy
      cases hl : val.getLast? with
      | none => decide
      | some z => exact hv z hl
  -- `segment` trims, cuts at the first `=` (none in `key ++ sfx`), asks that `key` is a prefix of what stands before it and
  -- that the rest, `sfx`, is made of `*` and digits; left is the distinction between a quoted value and any other
  unfold segment
  simp only [ht, takeWhile_key2 (key ++ sfx) val fun b hb => (hk.safe.append hs.safe b hb).ne (by decide), List.drop_left,
    List.drop_one, List.tail_cons, List.isPrefixOf_iff_prefix.mpr (List.prefix_append key sfx), hs.all, hs.ext, Bool.not_true,
    Bool.false_eq_true, if_false]
  refine ⟨fun rest e => by subst e; rfl, fun h => ?_⟩
  split
  · exact absurd rfl (h _)
  · rfl

/-- `s` is one segment of parameter `key`, which contributes `c` to its value -/
structure Seg (key : Bytes) (first : Bool) (s c : Bytes) : Prop where
  whole : Whole s
  read : ∃ e, segment key s = some e ∧
    ∀ rest, paramDecode.go first (e :: rest) = (paramDecode.go false rest).map (c ++ ·)

/-- a quoted segment `key="…"` or `key*i="…"` -/
theorem seg_quoted (hk : KeyOk key) (first : Bool) {sfx : Bytes} (hs : Sfx sfx false) (c : Bytes) :
    Seg key first (segText key sfx (34 :: (esc c ++ [34]))) c := by
  refine ⟨whole_segText hk hs.safe (whole_quoted c), (false, c), ?_, ?_⟩
  · rw [(segment_segText hk hs _ (by
      intro b hb
      rw [← List.cons_append, List.getLast?_concat] at hb
      cases hb; decide)).1 _ rfl, quotedGo_esc c [] []]
    rfl
  · intro rest
    simp only [paramDecode.go, Bool.false_and, Bool.false_eq_true, if_false]
    cases paramDecode.go false rest <;> rfl

/-- `utf-8''`: charset and (empty) language, in front of the text of the first extended segment -/
def tag : Bytes := [117, 116, 102, 45, 56, 39, 39]

theorem dropWhile_none (t : Bytes) (h : ∀ b ∈ t, b ≠ 39) : t.dropWhile (· != 39) = [] := by
  have := List.dropWhile_append_of_pos (l₂ := []) fun b hb => bne_iff_ne.mpr (h b hb)
  rwa [List.append_nil] at this

/-- an extended segment `key*i*=…`, the first one with the charset and language in front -/
theorem seg_ext (hk : KeyOk key) (first : Bool) {sfx : Bytes} (hs : Sfx sfx true) {t c : Bytes} (ht : Safe t)
    (hd : percentDecode t = some c) :
    Seg key first (segText key sfx ((if first then tag else []) ++ t)) c := by
  have hval : Safe ((if first then tag else []) ++ t) := Safe.append (by cases first <;> decide) ht
  refine ⟨whole_segText hk hs.safe hval.whole, (true, (if first then tag else []) ++ t), ?_, fun rest => ?_⟩
  · exact (segment_segText hk hs _ fun b hb => (hval b (List.mem_of_getLast? hb)).nws).2
      fun rest e => absurd (hval 34 (e ▸ List.mem_cons_self)) (by decide)
  · -- on the first segment `utf-8''` is dropped up to its second `'`
    have : paramDecode.go first ((true, (if first then tag else []) ++ t) :: rest) =
        match percentDecode t, paramDecode.go false rest with | some x, some r => some (x ++ r) | _, _ => none := by
      cases first <;> rfl
    rw [this, hd]
    cases paramDecode.go false rest <;> rfl

/-- what `paramDecode` makes of the text after `kind;`: it finds segments of `key`, which together give `v` -/
def Reads (key : Bytes) (first : Bool) (t v : Bytes) : Prop :=
  ∃ e es, (splitParams t [] false).filterMap (segment key) = e :: es ∧ paramDecode.go first (e :: es) = some v

theorem Seg.one {first : Bool} {s c : Bytes} (h : Seg key first s c) : Reads key first s c := by
  obtain ⟨e, he, hgo⟩ := h.read
  refine ⟨e, [], ?_, by rw [hgo]; simp [paramDecode.go]⟩
  have := h.whole [] []
  rw [List.append_nil] at this
  simp [this, splitParams, he]

theorem Seg.cons {first : Bool} {s c t v : Bytes} (h : Seg key first s c) (ht : Reads key false t v) :
    Reads key first (s ++ 59 :: t) (c ++ v) := by
  obtain ⟨e, he, hgo⟩ := h.read
  obtain ⟨e', es, hs, hv⟩ := ht
  refine ⟨e, e' :: es, ?_, by rw [hgo, hv]; rfl⟩
  rw [h.whole, splitParams.eq_4]
  simp [he, hs]

theorem Reads.paramDecode {kind t v : Bytes} (hks : ∀ b ∈ kind, b ≠ 34 ∧ b ≠ 59) (h : Reads key true t v) :
    paramDecode key (kind ++ 59 :: t) = some v := by
  obtain ⟨e, es, hs, hv⟩ := h
  unfold StructuredDec.paramDecode
  simp only [whole_run kind hks (59 :: t) [], splitParams.eq_4, List.append_nil, List.reverse_reverse, List.drop_one,
    List.tail_cons, hs, List.isEmpty_cons, Bool.false_eq_true, if_false]
  exact hv

/-! ## the loops of `rfc2231::encode` -/

/-- a loop that writes one segment per line — `seg`, which takes a non-empty part `c` of the value and writes text that a
    reader takes for a segment contributing `c` —, `;` and a line break between them, until the value is used up:
    `plainLoop` and `encLoop` -/
theorem loop_tight {loop : Nat → Nat → W → Bytes → W} {seg : Nat → W → Bytes → W × Bytes} {Q : Byte → Prop} {N : Nat}
    (hloop : ∀ fuel i w v, loop (fuel + 1) i w v =
      if (seg i w v).2.isEmpty then (seg i w v).1 else loop fuel (i + 1) (writeCharB (seg i w v).1 59).newLine (seg i w v).2)
    (hseg : ∀ i {p : W} {x : Bytes} v, Tight p x → (∀ b ∈ v, Q b) → i < N → ∃ s c,
      Tight (seg i p.newLine v).1 (x ++ s) ∧ Seg key (i == 0) s c ∧ c ++ (seg i p.newLine v).2 = v ∧ (v ≠ [] → c ≠ [])) :
    ∀ fuel i {p : W} {x : Bytes} v, Tight p x → (∀ b ∈ v, Q b) → v.length < fuel → i + v.length < N →
      ∃ t, Tight (loop fuel i p.newLine v) (x ++ t) ∧ Reads key (i == 0) t v := by
  intro fuel
  induction fuel with
  | zero => intro _ _ _ _ _ _ hf; omega
  | succ fuel ih =>
    intro i p x v hp hQ hf hn
    obtain ⟨s, c, h1, h2, h3, h4⟩ := hseg i v hp hQ (Nat.lt_of_le_of_lt (Nat.le_add_right i _) hn)
    rw [hloop]
    generalize seg i p.newLine v = r at h1 h3 ⊢
    subst h3
    split
    · rename_i he
      rw [List.isEmpty_iff.mp he, List.append_nil]
      exact ⟨s, h1, h2.one⟩
    · rename_i he
      have hc := List.length_pos_iff.mpr (h4 fun e => he (by rw [(List.append_eq_nil_iff.mp e).2]; rfl))
      rw [List.length_append] at hf hn
      obtain ⟨t, ht, hrd⟩ := ih (i + 1) r.2 (h1.shows.charB_tight 59 (by decide) (by decide))
        (fun b hb => hQ b (List.mem_append_right c hb)) (by omega) (by omega)
      exact ⟨s ++ 59 :: t, by simpa [List.append_assoc] using ht, h2.cons hrd⟩

/-- one line of `plainLoop`: as many octets of the value as the line has room for -/
def plainSeg (key : Bytes) (i : Nat) (w : W) (v : Bytes) : W × Bytes :=
  let w := segHead key i [61, 34] w
  let k := min (maxLineLen - w.lineLen - 3) v.length
  (writeCharB (writeEscapedW w (v.take k)) 34, v.drop k)

theorem plainLoop_step (fuel i : Nat) (w : W) (v : Bytes) : plainLoop key (fuel + 1) i w v =
    if (plainSeg key i w v).2.isEmpty then (plainSeg key i w v).1
    else plainLoop key fuel (i + 1) (writeCharB (plainSeg key i w v).1 59).newLine (plainSeg key i w v).2 := by
  unfold plainSeg segHead
  rw [plainLoop]
  simp only [List.length_take, Nat.min_assoc, Nat.min_self]

theorem plainSeg_tight (hk : KeyOk key) (i : Nat) {p : W} {x : Bytes} (v : Bytes) (hp : Tight p x) (hv : Plain v)
    (hi : i < 10 ^ 20) :
    ∃ s c, Tight (plainSeg key i p.newLine v).1 (x ++ s) ∧ Seg key (i == 0) s c ∧ c ++ (plainSeg key i p.newLine v).2 = v ∧
      (v ≠ [] → c ≠ []) := by
  obtain ⟨t1, l1⟩ := seg_head hk hp i hi [61, 34] (by decide) (by decide)
  unfold plainSeg
  simp only
  generalize segHead key i [61, 34] p.newLine = w1 at t1 l1
  -- the line has room for at least one octet: 53 + 3 < 76
  have hroom : 0 < maxLineLen - w1.lineLen - 3 :=
    Nat.sub_pos_of_lt (Nat.lt_sub_of_add_lt (Nat.lt_of_le_of_lt (Nat.add_le_add_left l1 3) (by decide)))
  generalize hk' : min (maxLineLen - w1.lineLen - 3) v.length = k
  have t2 := (shows_escapedW (v.take k) t1.shows fun b hb => hv b (List.mem_of_mem_take hb)).charB_tight 34 (by decide) (by decide)
  exact ⟨segText key (42 :: digits i) (34 :: (esc (v.take k) ++ [34])), v.take k, by simpa [segText] using t2,
    seg_quoted hk _ (sfx_cont i) _, List.take_append_drop k v, fun hne e => hne ((List.take_eq_nil_iff.mp e).resolve_left
      (Nat.ne_of_gt (hk' ▸ Nat.lt_min.mpr ⟨hroom, List.length_pos_iff.mpr hne⟩)))⟩

/-- one line of `encLoop` -/
def encSeg (key : Bytes) (i : Nat) (w : W) (v : Bytes) : W × Bytes :=
  let w := segHead key i [42, 61] w
  encLine (v.length + 1) (if i == 0 then w.writeStr tag else w) v

theorem encLoop_step (fuel i : Nat) (w : W) (v : Bytes) : encLoop key (fuel + 1) i w v =
    if (encSeg key i w v).2.isEmpty then (encSeg key i w v).1
    else encLoop key fuel (i + 1) (writeCharB (encSeg key i w v).1 59).newLine (encSeg key i w v).2 := by
  unfold encSeg segHead
  rw [encLoop]
  rfl

theorem encSeg_tight (hk : KeyOk key) (i : Nat) {p : W} {x : Bytes} (v : Bytes) (hp : Tight p x) (hi : i < 10 ^ 20) :
    ∃ s c, Tight (encSeg key i p.newLine v).1 (x ++ s) ∧ Seg key (i == 0) s c ∧ c ++ (encSeg key i p.newLine v).2 = v ∧
      (v ≠ [] → c ≠ []) := by
  obtain ⟨t1, l1⟩ := seg_head hk hp i hi [42, 61] (by decide) (by decide)
  -- the charset and language on the first line
  obtain ⟨t2, l2⟩ := t1.writeIf (i == 0) tag (by decide) (by decide)
  obtain ⟨t, c, e1, e2, e3, e4, e5⟩ := encLine_tight (v.length + 1) v t2
  unfold encSeg
  exact ⟨segText key (42 :: digits i ++ [42]) ((if i == 0 then tag else []) ++ t), c, by simpa [segText] using e1,
    seg_ext hk _ (sfx_ext i) e2 e3, e4,
    e5 (Nat.le_add_left 1 _) (Nat.lt_of_le_of_lt (Nat.le_trans l2 (Nat.add_le_add_right l1 _)) (by decide))⟩

/-- the three forms of `rfc2231::encode`: `key="…"` on the current line, `key*0="…"; key*1="…"` or
    `key*0*=utf-8''…; key*1*=…` on lines of their own -/
theorem encode_tight (hk : KeyOk key) {p : W} {x : Bytes} (hp : Tight p x) (v : Bytes) (hn : v.length < 10 ^ 20) :
    ∃ t, Tight (encode key v p.space) (x ++ t) ∧ Reads key true t v := by
  have e : ({ p.space.newLine with spaces := 0 } : W) = p.newLine := by simp [W.space, W.newLine, hp.sp]
  rw [encode, e]
  by_cases ha : asciiPrintable v = true
  · have hv : Plain v := fun b hb => by rw [printable, List.all_eq_true.mp ha b hb, Bool.or_true]
    rw [if_pos ha]
    split
    · have t1 := (shows_escapedW v (((hp.shows.space.writeStr key hk.safe.plain).charB 61 (by decide)).charB 34 (by decide)) hv).charB_tight
        34 (by decide) (by decide)
      exact ⟨segText key [] (34 :: (esc v ++ [34])), by simpa [segText] using t1, (seg_quoted hk true sfx_nil v).one⟩
    · exact loop_tight plainLoop_step (plainSeg_tight hk) (v.length + 1) 0 v hp hv (Nat.lt_succ_self _) (by rwa [Nat.zero_add])
  · rw [if_neg ha]
    exact loop_tight (Q := fun _ => True) encLoop_step (fun i _ _ v hp _ hi => encSeg_tight hk i v hp hi) (v.length + 1) 0 v hp
      (fun _ _ => trivial) (Nat.lt_succ_self _) (by rwa [Nat.zero_add])

/-! ## Content-Disposition -/

theorem cdisp_reads (kind name : Bytes) (hk : Plain kind) (hn : name.length < 10 ^ 20) :
    scan .norm (cdispValue kind name) = some .norm ∧
      ∃ t, HeaderReader.unfold (cdispValue kind name) = kind ++ 59 :: t ∧ Reads filenameKey true t name := by
  have h0 : Tight (writeCharB (W.writeStr ⟨[], 21, 0, false⟩ kind) 59) (kind ++ [59]) := by
    simpa using ((tight_start 21).shows.writeStr kind hk).charB_tight 59 (by decide) (by decide)
  obtain ⟨t, ht, hr⟩ := encode_tight keyOk_filename h0 name hn
  exact ⟨ht.shows.flush.1, t, by rw [cdispValue, ht.shows.flush.2]; simp, hr⟩

/-- `C02.content_disposition_wf` -/
theorem cdisp_wf (kind name : Bytes) (hk : Plain kind) (hn : name.length < 10 ^ 20) :
    scan .norm (cdispValue kind name) = some .norm :=
  (cdisp_reads kind name hk hn).1

/-- `filename_roundtrip` for every printable `kind` without quote or semicolon, blanks in it or not -/
theorem filename_read_back (kind name : Bytes) (hk : Plain kind) (hks : ∀ b ∈ kind, b ≠ 34 ∧ b ≠ 59)
    (hn : name.length < 10 ^ 20) :
    paramDecode filenameKey (HeaderReader.unfold (cdispValue kind name)) = some name := by
  obtain ⟨_, t, ht, hr⟩ := cdisp_reads kind name hk hn
  rw [ht]
  exact hr.paramDecode hks

/-- `C12.file_name_roundtrip`; that `kind` is not empty and has no blank is asked and not needed -/
theorem filename_roundtrip (kind name : Bytes) (hk : Plain kind) (hk32 : ∀ b ∈ kind, b ≠ 32) (hkne : kind ≠ [])
    (hks : ∀ b ∈ kind, b ≠ 34 ∧ b ≠ 59) (hn : name.length < 10 ^ 20) :
    paramDecode filenameKey (HeaderReader.unfold (cdispValue kind name)) = some name :=
  filename_read_back kind name hk hks hn

end LV.Rfc2231Enc
