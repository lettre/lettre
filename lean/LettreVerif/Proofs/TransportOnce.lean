import LettreVerif.Model.Transport
import LettreVerif.Proofs.Client
/-!
# `send_raw` hands the message over at most once (C05, transport level)

`dcount c` counts the `DATA` commands written on a connection; `Pool.dataCommands` sums it over every connection the
transport ever opened.  One `send_raw` raises the sum by at most one, and by exactly one when it reports success.  The
transport's operations are characterised here once; the files on waiting reads and on the health of what is parked use
the same lemmas.
-/
namespace LV.Transport
open LV LV.Client

def dcount (c : Conn) : Nat := c.sent.count dataLine
def Pool.dataCommands (p : Pool) : Nat := (p.conns.map dcount).sum

/-! ### counting DATA on one connection -/

theorem quit_ne_data : quitLine ≠ dataLine := by decide
theorem noop_ne_data : noopLine ≠ dataLine := by decide

theorem ne_data_of_head {b : Byte} {l : Bytes} (hb : b ≠ 68) : b :: l ≠ dataLine :=
  fun e => hb (List.cons.inj e).1

theorem ehlo_ne_data (h : Bytes) : ehloLine h ≠ dataLine := ne_data_of_head (by decide)
theorem rcpt_ne_data (a : Bytes) : rcptLine a ≠ dataLine := by
  have h1 : str "RCPT TO:<" = [82, 67, 80, 84, 32, 84, 79, 58, 60] := by decide
  rw [rcptLine, h1]
  exact ne_data_of_head (by decide)
theorem mail_ne_data (f : Option Bytes) (u e8 : Bool) : mailLine f u e8 ≠ dataLine := by
  have h1 : str "MAIL FROM:<" = [77, 65, 73, 76, 32, 70, 82, 79, 77, 58, 60] := by decide
  rw [mailLine, h1]
  exact ne_data_of_head (by decide)
/-- the content ends with `.` CR LF -/
theorem wire_ne_data (m : Bytes) : Codec.wire m ≠ dataLine := by
  intro e
  have := congrArg (fun l => l.reverse.take 3) e
  simp [Codec.wire, Codec.terminator, dataLine] at this

theorem dcount_wrote {c c' : Conn} {us : List Bytes} {k : Nat} (h : Wrote c c' us k) :
    dcount c' = us.count dataLine + dcount c := by
  simp only [dcount, h.sent, List.count_append, List.count_reverse]

theorem dcount_closed {c c' : Conn} {us : List Bytes} {k : Nat} (h : Closed c c' us k) :
    dcount c' = us.count dataLine + dcount c := by
  rcases h.sent_cases with hs | hs <;>
    simp only [dcount, hs, List.count_cons_of_ne quit_ne_data, List.count_append, List.count_reverse]

theorem dcount_abort (c : Conn) : dcount c.abort = dcount c := by
  simpa using dcount_closed (abort_closed c)

theorem dcount_testConnected {c c' : Conn} {ok : Bool} (h : c.testConnected = (c', ok)) : dcount c' = dcount c := by
  rw [dcount_wrote (testConnected_wrote h).1]
  split <;> simp [noop_ne_data]

theorem dcount_greet (c : Conn) (hello : Bytes) (h : c.shut = false) : dcount (c.greet hello).1 = dcount c := by
  have he : [ehloLine hello].count dataLine = 0 := by simp [ehlo_ne_data]
  rcases greet_spec c hello h with ⟨c', e, h1, hw⟩ | ⟨c', i, h1, hw⟩ | ⟨c', e, h1, hc⟩ <;> rw [h1]
  · simpa using dcount_wrote hw
  · exact (dcount_wrote hw).trans (by rw [he, Nat.zero_add])
  · simpa [he] using dcount_closed hc

theorem count_rcpts (to : List Bytes) : (to.map rcptLine).count dataLine = 0 :=
  List.count_eq_zero.mpr fun hm => by
    obtain ⟨a, _, ha⟩ := List.mem_map.mp hm
    exact rcpt_ne_data a ha

theorem dcount_send (c : Conn) (f : Option Bytes) (to : List Bytes) (m : Bytes) (h : c.shut = false) :
    dcount (c.send f to m).1 ≤ dcount c + 1 ∧ (∀ r, (c.send f to m).2 = .ok r → dcount (c.send f to m).1 = dcount c + 1) := by
  have cm (l : List Bytes) := List.count_cons_of_ne (l := l) (mail_ne_data f (needsUtf8 f to) (needsEight m))
  have cw (l : List Bytes) := List.count_cons_of_ne (l := l) (wire_ne_data m)
  rcases send_spec c f to m h with ⟨h1, _⟩ | ⟨c1, r, h1, _, hw, hx⟩ | ⟨c', e, us, h1, hc, hus⟩ <;> rw [h1]
  · exact ⟨Nat.le_succ _, by rintro _ ⟨⟩⟩
  · have : dcount (c1.message m).1 = dcount c + 1 := by
      simp [dcount_wrote (hw.trans hx), cm, cw, List.count_append, count_rcpts, List.count_cons_self, Nat.add_comm]
    exact ⟨Nat.le_of_eq this, fun _ _ => this⟩
  · refine ⟨?_, by rintro _ ⟨⟩⟩
    rw [dcount_closed hc]
    rcases hus with rfl | ⟨k, _, rfl⟩ | rfl | rfl <;>
      simp only [cm, cw, List.count_append, count_rcpts, List.count_cons_self, List.count_nil] <;> omega

/-! ### the transport's operations -/

theorem sum_set (g : Conn → Nat) (l : List Conn) (i : Nat) (c c0 : Conn) (h : l[i]? = some c0) :
    ((l.set i c).map g).sum + g c0 = (l.map g).sum + g c := by
  have : Inhabited Conn := ⟨c⟩
  have := sum_map_modify g (fun _ => c) l i c0 h
  rwa [List.modify_eq_set] at this

theorem data_setConn (p : Pool) (i : Nat) (c c0 : Conn) (h : p.conns[i]? = some c0) :
    (p.setConn i c).dataCommands + dcount c0 = p.dataCommands + dcount c :=
  sum_set dcount p.conns i c c0 h

theorem data_setConn_same (p : Pool) (i : Nat) {c c0 : Conn} (h : p.conns[i]? = some c0) (hd : dcount c = dcount c0) :
    (p.setConn i c).dataCommands = p.dataCommands := by
  have := data_setConn p i c c0 h
  omega

theorem getElem?_setConn_eq (p : Pool) (i : Nat) (c : Conn) {c0 : Conn} (h : p.conns[i]? = some c0) :
    (p.setConn i c).conns[i]? = some c := by
  simp [Pool.setConn, (List.getElem?_eq_some_iff.mp h).1]

theorem getElem?_setConn_ne (p : Pool) (i j : Nat) (c : Conn) (h : i ≠ j) : (p.setConn i c).conns[j]? = p.conns[j]? := by
  simp [Pool.setConn, List.getElem?_set_ne h]

@[simp] theorem data_idle (p : Pool) (l : List Nat) : ({ p with idle := l } : Pool).dataCommands = p.dataCommands := rfl

theorem open_eq (p : Pool) : p.open =
    match p.scripts with
    | [] => (p, none, .error .bad)
    | s :: rest =>
      match ({ Conn.fresh s [] none with stallAtEnd := p.stallAtEnd } : Conn).deliver.greet p.hello with
      | (c, r) =>
        let p := { p with scripts := rest, conns := p.conns ++ [c] }
        match r with
        | .ok () => (p, some (p.conns.length - 1), .ok ())
        | .error e => (p, none, .error e) := rfl

theorem open_spec (p : Pool) :
    p.open = (p, none, .error .bad) ∨
    ∃ c0 : Conn, c0.shut = false ∧ c0.sent = [] ∧ c0.blocked = 0 ∧
      p.open.1 = { p with scripts := p.scripts.tail, conns := p.conns ++ [(c0.greet p.hello).1] } ∧
      ∀ i, p.open.2.1 = some i → i = p.conns.length ∧ (c0.greet p.hello).2 = .ok () := by
  rw [open_eq]
  split
  · exact .inl rfl
  · rename_i s rest hs
    have hd := deliver_wrote { Conn.fresh s [] none with stallAtEnd := p.stallAtEnd }
    refine .inr ⟨_, hd.shut, hd.sent, Nat.le_zero.mp hd.blocked_le, ?_⟩
    rw [hs]
    cases Conn.greet _ p.hello with
    | mk c r =>
      cases r with
      | ok => exact ⟨rfl, fun i hi => ⟨by cases hi; simp, rfl⟩⟩
      | error e => exact ⟨rfl, nofun⟩

theorem open_data (p : Pool) : p.open.1.dataCommands = p.dataCommands := by
  rcases open_spec p with h | ⟨c0, hs, hsent, _, h, _⟩ <;> rw [h]
  have hg : dcount (c0.greet p.hello).1 = 0 := by rw [dcount_greet c0 p.hello hs, dcount, hsent]; rfl
  simp [Pool.dataCommands, hg]

theorem acquire_data (p : Pool) (l : List Nat) : (p.acquire l).1.dataCommands = p.dataCommands := by
  -- the cases of `acquire`: 1 the list is exhausted: `open`; 2 `i` names no connection; 3 the probe of `c` (giving `c'`)
  -- was answered: `i` is handed out; 4 it was not: `c'` is aborted and the search goes on in `rest`
  fun_induction Pool.acquire p l with
  | case1 p => exact open_data _
  | case2 p i rest _ ih => exact ih
  | case3 p i rest c hc c' htc => exact data_setConn_same p i hc (dcount_testConnected htc)
  | case4 p i rest c hc c' ok htc _ ih =>
    rw [ih]
    exact data_setConn_same p i hc ((dcount_abort c').trans (dcount_testConnected htc))

theorem recycle_cases (p : Pool) (i : Nat) :
    p.recycle i = p ∨ (∃ c, p.conns[i]? = some c ∧ p.recycle i = p.setConn i c.abort) ∨
    ∃ c, p.conns[i]? = some c ∧ c.panic = false ∧ p.recycle i = { p with idle := i :: p.idle } := by
  unfold Pool.recycle
  cases hc : p.conns[i]? with
  | none => exact .inl rfl
  | some c =>
    simp only
    cases hp : c.panic
    · by_cases hfull : p.idle.length ≥ p.maxSize
      · exact .inr (.inl ⟨c, rfl, by rw [if_neg nofun, if_pos hfull]⟩)
      · exact .inr (.inr ⟨c, rfl, hp, by rw [if_neg nofun, if_neg hfull]⟩)
    · exact .inr (.inl ⟨c, rfl, by rw [if_pos rfl]⟩)

theorem recycle_data (p : Pool) (i : Nat) : (p.recycle i).dataCommands = p.dataCommands := by
  rcases recycle_cases p i with h | ⟨c, hc, h⟩ | ⟨c, _, _, h⟩ <;> rw [h]
  · exact data_setConn_same p i hc (dcount_abort c)
  · rfl

theorem acquire_some_open (p p1 : Pool) (l : List Nat) (i : Nat) (h : p.acquire l = (p1, some i, .ok ())) :
    ∃ c, p1.conns[i]? = some c ∧ c.shut = false := by
  -- cases as in `acquire_data`
  fun_induction Pool.acquire p l with
  | case1 p =>
    rcases open_spec { p with idle := [] } with h' | ⟨c0, hs, _, _, h1, h2⟩
    · rw [h'] at h; cases h
    · obtain ⟨rfl, hok⟩ := h2 i (by rw [h])
      rw [h] at h1
      exact ⟨_, by rw [show p1 = _ from h1]; simp, greet_ok_open c0 p.hello hs hok⟩
  | case2 p i rest _ ih => exact ih h
  | case3 p j rest c hc c' htc =>
    cases h
    exact ⟨c', getElem?_setConn_eq p _ c' hc, (testConnected_wrote htc).2 rfl⟩
  | case4 p i rest c hc c' ok htc _ ih => exact ih h

theorem sendRaw_cases (p : Pool) (f : Option Bytes) (to : List Bytes) (m : Bytes) :
    (∃ e, p.sendRaw f to m = ((p.acquire p.idle).1, .error e)) ∨
    ∃ p1 i c, p.acquire p.idle = (p1, some i, .ok ()) ∧ p1.conns[i]? = some c ∧ c.shut = false ∧
      p.sendRaw f to m = ((p1.setConn i (c.send f to m).1).recycle i, (c.send f to m).2) := by
  unfold Pool.sendRaw
  split
  · rename_i heq; exact .inl ⟨_, by rw [heq]⟩
  · rename_i heq; exact .inl ⟨_, by rw [heq]⟩
  · rename_i p1 i heq
    obtain ⟨c, hc, hs⟩ := acquire_some_open p p1 p.idle i heq
    exact .inr ⟨p1, i, c, heq, hc, hs, by simp only [hc]⟩

theorem sendRaw_data (p : Pool) (f : Option Bytes) (to : List Bytes) (m : Bytes) :
    (p.sendRaw f to m).1.dataCommands ≤ p.dataCommands + 1 ∧
    ∀ r, (p.sendRaw f to m).2 = .ok r → (p.sendRaw f to m).1.dataCommands = p.dataCommands + 1 := by
  have ha := acquire_data p p.idle
  rcases sendRaw_cases p f to m with ⟨e, h⟩ | ⟨p1, i, c, h1, hc, hs, h⟩ <;> rw [h]
  · exact ⟨ha ▸ Nat.le_succ _, nofun⟩
  · have ha : p1.dataCommands = p.dataCommands := by rw [h1] at ha; exact ha
    have := data_setConn p1 i (c.send f to m).1 c hc
    have hd := dcount_send c f to m hs
    simp only [recycle_data]
    exact ⟨by omega, fun r hok => by have := hd.2 r hok; omega⟩

end LV.Transport
