import LettreVerif.Proofs.Bytes
import LettreVerif.Model.XText
import LettreVerif.Spec.XTextSpec
/-!
# xtext (RFC 3461 §4): the specification's decoder reads back what the encoder writes (C04)

Octet by octet (`decode_encByte`).  `encByte true true` is the repaired encoder, `XText.xtext`: always two hex digits, DEL
escaped; with either switch off the statement is false.
-/
namespace LV.XText
open LV LV.XTextSpec

-- `hexUp` writes 0..9 as `0`.., 10..15 as `A`.. (upper case), which `hexDigitVal` reads by its first two branches
theorem hexVal_hexUp : ∀ n < 16, hexDigitVal (hexUp n) = some n := by decide +kernel

theorem decode_encByte (b : Byte) (rest : Bytes) :
    decode (encByte true true b ++ rest) = (decode rest).map (b :: ·) := by
  have hb := b.toNat_lt
  unfold encByte
  by_cases he : (decide (b.toNat < 33) || b.toNat == 43 || b.toNat == 61 || (true && b.toNat == 127)) = true
  · rw [if_pos he, if_pos (Bool.true_or _)]
    simp only [List.cons_append, List.nil_append, decode, if_pos,
      hexVal_hexUp (b.toNat / 16) (Nat.div_lt_of_lt_mul hb), hexVal_hexUp (b.toNat % 16) (Nat.mod_lt _ (by decide))]
    cases decode rest with
    | none => rfl
    | some r => simp only [Option.map_some]; rw [Nat.mul_comm, Nat.div_add_mod, UInt8.ofNat_toNat]
  · rw [if_neg he, List.singleton_append]
    simp only [Bool.or_eq_true, Bool.and_eq_true, decide_eq_true_eq, beq_iff_eq, true_and, not_or] at he
    have h43 : ¬ b = 43 := fun e => he.1.1.2 (by rw [e]; rfl)
    have hx : isXchar b = true := by
      simp only [isXchar, Bool.or_eq_true, Bool.and_eq_true, decide_eq_true_eq]
      omega
    generalize hd : decode rest = d
    unfold decode
    rw [if_neg h43, if_pos hx, hd]

theorem decode_encode (v : Bytes) : decode (encode true true v) = some v := by
  induction v with
  | nil => rfl
  | cons b bs ih =>
    rw [encode, List.map_cons, List.flatten_cons, decode_encByte, ← encode, ih]
    rfl

end LV.XText
