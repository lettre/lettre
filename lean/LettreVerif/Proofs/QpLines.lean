import LettreVerif.Proofs.QuotedPrintable
import LettreVerif.Proofs.BodyEnc
/-!
# Quoted-printable output: every line has at most 76 characters, ASCII only, no bare trailing blank

One more instance of `qpGo_rule`: the invariant is `WInv`, the width bookkeeping `runW` over the items of the line
buffer (`qpItems_width`).  The clause on trailing blanks needs no invariant of its own: it follows from the round
trip's `runG` (`qpItems_good`).
-/
namespace LV.BodyEnc
open LV LV.BodyDec

/-- width bookkeeping over items: the width of the unfinished line, `none` if a finished line was too long -/
def runW : Nat → List Item → Option Nat
  | cur, [] => some cur
  | cur, .lit _ :: r => runW (cur + 1) r
  | cur, .hex _ :: r => runW (cur + 3) r
  | cur, .soft :: r => if cur + 1 ≤ limit then runW 0 r else none
  | cur, .hard :: r => if cur ≤ limit then runW 0 r else none

theorem runW_append (cur : Nat) (a b : List Item) : runW cur (a ++ b) = (runW cur a).bind (runW · b) := by
  induction a generalizing cur with
  | nil => rfl
  | cons x r ih =>
    cases x <;> simp only [List.cons_append, runW, ih]
    · split <;> rfl
    · split <;> rfl

theorem widths_cons (x : Item) (l : List Item) : widths (x :: l) = x.width + widths l := by
  simp [widths]

theorem plain_width (x : Item) (h : plainItem x = true) : 1 ≤ x.width ∧ x.width ≤ 3 := by
  cases x <;> simp [plainItem, Item.width] at h ⊢

theorem runW_plain (cur : Nat) (l : List Item) (h : ∀ x ∈ l, plainItem x = true) : runW cur l = some (cur + widths l) := by
  induction l generalizing cur with
  | nil => rfl
  | cons x r ih =>
    have ih := fun c => ih c (fun y hy => h y (List.mem_cons_of_mem _ hy))
    cases x with
    | hard => cases h _ List.mem_cons_self
    | soft => cases h _ List.mem_cons_self
    | hex b => rw [runW, ih, widths_cons, Item.width, Nat.add_assoc]
    | lit b => rw [runW, ih, widths_cons, Item.width, Nat.add_assoc]

/-- the width invariant of the line buffer.  `room` (75 = `limit - 1`): a line without a last group is not full — a literal
    run, which flushes the group, leaves two columns (`takeRun (limit - q.onLine - 2)` in `qpGo`) — so that a full line
    always has a last group to move behind the soft break -/
structure WInv (q : Q) : Prop where
  lastPlain : ∀ x ∈ q.last, plainItem x = true
  lastShort : q.last.length ≤ 1
  doneW : ∃ a, runW 0 q.done.reverse = some a ∧ a + widths q.last = q.onLine
  fits : q.onLine ≤ limit
  room : q.last = [] → q.onLine ≤ 75

theorem WInv.run {q : Q} (h : WInv q) : runW 0 q.items = some q.onLine := by
  obtain ⟨a, ha, hal⟩ := h.doneW
  rw [Q.items, runW_append, ha, Option.bind_some, runW_plain _ _ h.lastPlain, hal]

theorem WInv.lastWidth {q : Q} (h : WInv q) : widths q.last ≤ 3 ∧ (q.last ≠ [] → 1 ≤ widths q.last) := by
  match q.last, h.lastShort, h.lastPlain with
  | [], _, _ => exact ⟨Nat.zero_le _, fun h => absurd rfl h⟩
  | [y], _, hp =>
    have hw := plain_width y (hp y List.mem_cons_self)
    exact ⟨hw.2, fun _ => hw.1⟩
  | _ :: _ :: _, hs, _ => exact absurd (Nat.le_of_succ_le_succ hs) (Nat.not_succ_le_zero _)

theorem WInv.append {q : Q} (h : WInv q) (x : Item) (hx : plainItem x = true) : WInv (q.append x) := by
  obtain ⟨a, ha, hal⟩ := h.doneW
  have hw := plain_width x hx
  -- the last group is `[x]`: what is left is that `done` is fine, and where the line stands
  suffices hd : (∃ a, runW 0 (q.append x).done.reverse = some a ∧ a + x.width = (q.append x).onLine) ∧
      (q.append x).onLine ≤ limit by
    obtain ⟨⟨a, h1, h2⟩, h3⟩ := hd
    exact ⟨by rw [q.append_last]; simpa using hx, by simp [q.append_last],
      ⟨a, h1, by rw [q.append_last, widths_cons, ← h2]; rfl⟩, h3, by simp [q.append_last]⟩
  rcases q.append_cases x with ⟨h1, e, en⟩ | ⟨h1, h2, e, en⟩ | ⟨h1, h2, e, en⟩ <;> rw [e, en]
  · exact ⟨⟨_, h.run, rfl⟩, h1⟩
  · -- the line is full, so there is a last group; it has at least one column and at most three
    have hlw := h.lastWidth
    have h1w : 1 ≤ widths q.last := hlw.2 fun e => absurd (h2 ▸ h.room e) (by decide)
    refine ⟨⟨widths q.last, ?_, rfl⟩, Nat.le_trans (Nat.add_le_add hlw.1 hw.2) (by decide)⟩
    rw [runW_append, ha, Option.bind_some, runW, if_pos (h2 ▸ hal ▸ Nat.add_le_add_left h1w a),
      runW_plain _ _ h.lastPlain, Nat.zero_add]
  · refine ⟨⟨0, ?_, Nat.zero_add _⟩, Nat.le_trans hw.2 (by decide)⟩
    rw [runW_append, h.run, Option.bind_some, runW, if_pos (Nat.succ_le_of_lt (Nat.lt_of_le_of_ne h.fits h2))]; rfl

theorem WInv.popLit {q : Q} (h : WInv q) (b : Byte) (hl : q.items.getLast? = some (.lit b)) : WInv q.popLast := by
  obtain ⟨hi, hn, t, ht⟩ := Q.popLast_spec hl
  have hp : ∀ x ∈ q.popLast.last, plainItem x = true := fun x hx => h.lastPlain x (ht ▸ List.mem_append_left _ hx)
  have hs := h.lastShort
  rw [ht, List.length_append] at hs
  -- the line stood one column earlier before the literal, behind `done` and what is left of the last group
  have hrun := h.run
  rw [← hi, runW_append, Option.bind_eq_some_iff] at hrun
  obtain ⟨c, hc, e⟩ := hrun
  have e : c + 1 = q.onLine := Option.some.inj e
  have hn : q.popLast.onLine = c := by rw [hn, ← e]; rfl
  have hf : c + 1 ≤ 76 := e ▸ h.fits
  rw [Q.items, runW_append, Option.bind_eq_some_iff] at hc
  obtain ⟨a, ha, hc⟩ := hc
  rw [runW_plain _ _ hp] at hc
  exact ⟨hp, Nat.le_trans (Nat.le_add_right ..) hs, ⟨a, ha, hn ▸ Option.some.inj hc⟩, hn ▸ Nat.le_of_succ_le hf,
    fun _ => hn ▸ Nat.le_of_succ_le_succ hf⟩

theorem WInv.trailing {q : Q} (h : WInv q) : WInv q.trailing := by
  rcases q.trailing_cases with ⟨b, -, hl, e⟩ | ⟨e, -⟩
  · rw [e]; exact (h.popLit b hl).append _ rfl
  · rw [e]; exact h

theorem WInv.encByte {q : Q} (h : WInv q) (b : Byte) : WInv (encByte q b) := by
  obtain ⟨x, hx, -, e⟩ := encByte_eq q b
  rw [e]; exact h.append x hx

theorem WInv.flush {q : Q} {mid : List Item} {n : Nat} (hm : runW 0 (q.items ++ mid) = some n) (hn : n ≤ 75) :
    WInv (q.flush mid n) :=
  ⟨by simp [Q.flush], by simp [Q.flush], ⟨n, by rw [Q.flush_done, hm], rfl⟩, Nat.le_trans hn (by decide), fun _ => hn⟩

theorem widths_lits (run : Bytes) : widths (run.map Item.lit) = run.length := by
  induction run with
  | nil => rfl
  | cons b r ih => rw [List.map_cons, widths_cons, ih, Item.width, List.length_cons, Nat.add_comm]

theorem qpItems_width (s : Bytes) : ∃ c, runW 0 (qpItems s) = some c ∧ c ≤ limit :=
  have h : WInv (qpGo (s.length + 1) ⟨[], [], 0⟩ false s) :=
    qpGo_rule (P := fun q _ _ => WInv q) (R := WInv)
      (cr := fun h => h.append _ rfl)
      (seeCr := id)
      (hard := fun h =>
        have ht := h.trailing
        WInv.flush (by rw [runW_append, ht.run, Option.bind_some, runW, if_pos ht.fits]; rfl) (by decide))
      (run := fun h hr hlen =>
        WInv.flush (by rw [runW_append, h.run, Option.bind_some, runW_plain _ _ hr, widths_lits])
          (by simp only [limit] at hlen; omega))
      (enc := fun h => h.encByte _)
      (fin := WInv.trailing)
      (finCr := fun h => h.append _ rfl)
      _ _ false s (Nat.lt_succ_self _) ⟨List.forall_mem_nil _, Nat.zero_le _, ⟨0, rfl, rfl⟩, Nat.zero_le _, fun _ => Nat.zero_le _⟩
  ⟨_, h.run, h.fits⟩

/-! ### from the item bookkeeping to the octets -/

theorem lines_of_runW (l : List Item) (cur : Nat) (h : ∀ b, Item.lit b ∈ l → litOk b = true) :
    linesOkGo limit cur (renders l) = (match runW cur l with | some c => decide (c ≤ limit) | none => false) := by
  induction l generalizing cur with
  | nil => rfl
  | cons x r ih =>
    have ih := fun c => ih c (fun b hb => h b (List.mem_cons_of_mem _ hb))
    rw [renders_cons]
    cases x with
    | lit b =>
      have hb := litOk_props b (h b List.mem_cons_self)
      exact (linesOkGo_step _ _ _ _ hb.1 hb.2.1).trans (ih _)
    | hex b =>
      have h1 := hexd_inline (hi_lt b)
      have h2 := hexd_inline (lo_lt b)
      refine (linesOkGo_run _ _ _ _ ?_).trans (ih _)
      simp only [Item.render, List.forall_mem_cons]
      exact ⟨by decide, ⟨h1.ne_cr, h1.ne_lf⟩, ⟨h2.ne_cr, h2.ne_lf⟩, List.forall_mem_nil _⟩
    | soft =>
      refine (linesOkGo_step _ _ 61 _ (by decide) (by decide)).trans ?_
      show linesOkGo limit (cur + 1) (13 :: 10 :: renders r) = _
      rw [linesOkGo, ih, runW]
      by_cases hc : cur + 1 ≤ limit <;> simp [hc]
    | hard =>
      show linesOkGo limit cur (13 :: 10 :: renders r) = _
      rw [linesOkGo, ih, runW]
      by_cases hc : cur ≤ limit <;> simp [hc]

/-- `b`: the octet before the items; a blank is pending exactly when it is one -/
theorem ntw_items (l : List Item) (b : Byte) (h : runG (isWs b) l = some false) : noTrailingWs (b :: renders l) = true := by
  induction l generalizing b with
  | nil =>
    have hb := isWs_eq_false.mp (Option.some.inj h)
    exact ntw_cons b [] hb.1 hb.2
  | cons x r ih =>
    rw [runG, Option.bind_eq_some_iff] at h
    obtain ⟨p, hp, h⟩ := h
    rw [renders_cons]
    cases x with
    | hard =>
      obtain ⟨hb, rfl⟩ := stepG_hard.mp hp
      rw [isWs_eq_false] at hb
      exact (ntw_cons b _ hb.1 hb.2).trans ((ntw_cons 13 _ (by decide) (by decide)).trans (ih 10 h))
    | soft =>
      cases hp
      exact (ntw_skip b 61 _ (by decide)).trans ((ntw_cons 61 _ (by decide) (by decide)).trans
        ((ntw_cons 13 _ (by decide) (by decide)).trans (ih 10 h)))
    | lit c =>
      obtain ⟨hc, rfl⟩ := stepG_lit.mp hp
      exact (ntw_skip b c _ (litOk_props c hc).1).trans (ih c h)
    | hex c =>
      cases hp
      have h1 := hexd_inline (hi_lt c)
      have h2 := hexd_inline (lo_lt c)
      exact (ntw_skip b 61 _ (by decide)).trans ((ntw_cons 61 _ (by decide) (by decide)).trans
        ((ntw_cons _ _ h1.ne_sp h1.ne_tab).trans (ih _ (by rwa [isWs_eq_false.mpr ⟨h2.ne_sp, h2.ne_tab⟩]))))

theorem ascii_items (l : List Item) (h : ∀ b, Item.lit b ∈ l → litOk b = true) : (renders l).all (fun x => x < 128) = true := by
  induction l with
  | nil => rfl
  | cons x r ih =>
    rw [renders_cons, List.all_append, ih (fun b hb => h b (List.mem_cons_of_mem _ hb)), Bool.and_true]
    cases x with
    | lit b => simpa [Item.render] using (litOk_props b (h b List.mem_cons_self)).2.2.2
    | hex b => simpa [Item.render] using ⟨(hexd_inline (hi_lt b)).ascii, (hexd_inline (lo_lt b)).ascii⟩
    | soft => decide
    | hard => decide

theorem qp_encodedOk (s : Bytes) : encodedOk (qpEncode s) = true := by
  have hg := qpItems_good s
  have hl := runG_lits hg
  obtain ⟨c, hc, hc76⟩ := qpItems_width s
  have e : qpEncode s = renders (qpItems s) := rfl
  -- `ntw_items` speaks of the octet before the items: an `A` is put in front
  rw [encodedOk, e, ascii_items _ hl, linesOk, show (76 : Nat) = limit from rfl, lines_of_runW _ 0 hl, hc,
    ← ntw_cons 65 _ (by decide) (by decide), ntw_items _ 65 hg]
  simpa using hc76

end LV.BodyEnc
