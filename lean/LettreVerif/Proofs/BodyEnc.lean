import LettreVerif.Model.BodyEnc
import LettreVerif.Spec.BodyDec
import LettreVerif.Proofs.Base64
/-!
# Body encodings (Model/BodyEnc.lean against Spec/BodyDec.lean): what is not quoted-printable or base64 line wrapping

The CRLF conversion `crlfGo`, the chooser `bestEncoding` (decision tables over a handful of Boolean flags), how the
reader's checks `dropCrlf`, `linesOkGo`, `noTrailingWs` step over an octet that is not a line break, the 7bit rules of
7bit output, the base64 alphabet.  Each is an induction over the octets and rests on the model alone; QpLines and
B64Lines use the steppers and the alphabet.
-/
namespace LV.BodyEnc
open LV LV.BodyDec

/-! ### CRLF conversion -/

/-- every LF is preceded by a CR (`prevCr`: the octet before the list was a CR) -/
def lfAfterCr : Bool → Bytes → Bool
  | _, [] => true
  | prevCr, b :: bs => (b != 10 || prevCr) && lfAfterCr (b = 13) bs

theorem crlfGo_lfAfterCr (p : Bool) (s : Bytes) : lfAfterCr p (crlfGo p s) = true := by
  induction s generalizing p with
  | nil => rfl
  | cons b bs ih =>
    rw [crlfGo]
    split
    · simp [lfAfterCr, ih]
    · rename_i h
      have : b ≠ 10 ∨ p = true := by
        by_cases hb : b = 10
        · simpa [hb] using h
        · exact .inl hb
      simpa [lfAfterCr, ih] using this

theorem crlfGo_id (p : Bool) (s : Bytes) (h : lfAfterCr p s = true) : crlfGo p s = s := by
  induction s generalizing p with
  | nil => rfl
  | cons b bs ih =>
    simp only [lfAfterCr, Bool.and_eq_true, Bool.or_eq_true, bne_iff_ne, ne_eq] at h
    rw [crlfGo, if_neg, ih _ h.2]
    simpa using fun hb => h.1.resolve_left (not_not_intro hb)

/-- every CR that directly precedes an LF removed.  Nothing uses it: that the conversion adds nothing but such CRs is
    stated with the reader's `toLf` instead (`toLfGo_crlfGo`) -/
def stripCrBeforeLf : Bytes → Bytes
  | 13 :: 10 :: rest => 10 :: stripCrBeforeLf rest
  | b :: rest => b :: stripCrBeforeLf rest
  | [] => []

/-- the reader's pending-CR flag is the writer's `prevCr`: one flag serves both sides -/
theorem toLfGo_crlfGo (p : Bool) (s : Bytes) : toLfGo p (crlfGo p s) = toLfGo p s := by
  induction s generalizing p with
  | nil => rfl
  | cons b bs ih =>
    by_cases h13 : b = 13
    · subst h13; simp [crlfGo, toLfGo, ih]
    · by_cases h10 : b = 10
      · subst h10; cases p <;> simp [crlfGo, toLfGo, ih]
      · simp [crlfGo, toLfGo, ih, h13, h10]

theorem all_crlfGo (P : Byte → Bool) (h13 : P 13 = true) (p : Bool) (s : Bytes) : (crlfGo p s).all P = s.all P := by
  induction s generalizing p with
  | nil => rfl
  | cons b bs ih =>
    rw [crlfGo]
    split
    · rename_i h
      simp only [Bool.and_eq_true, decide_eq_true_eq] at h
      simp only [List.all_cons, ih, h13, h.1, Bool.true_and]
    · simp only [List.all_cons, ih]

/-! ### the chooser -/

theorem qpOrB64_cases (b : Bytes) : qpOrB64 b = .quotedPrintable ∨ qpOrB64 b = .base64 := by
  unfold qpOrB64; split
  · exact .inl rfl
  · exact .inr rfl

theorem choose_sevenBit_iff (isStr u : Bool) (b : Bytes) :
    choose isStr b u = .sevenBit ↔ (isAsciiBytes b = true ∧ lineTooLong b = false) := by
  have hq : qpOrB64 b ≠ .sevenBit := by rcases qpOrB64_cases b with h | h <;> simp [h]
  -- the table of `choose`: ASCII without a long line is 7bit; every other arm is `qpOrB64`, base64 or 8bit
  unfold choose
  cases isAsciiBytes b
  · cases isStr <;> cases u <;> cases lineTooLong b <;> simp [hq]
  · cases lineTooLong b <;> simp [hq]

theorem choose_range (isStr : Bool) (b : Bytes) :
    choose isStr b false = .sevenBit ∨ choose isStr b false = .quotedPrintable ∨ choose isStr b false = .base64 := by
  have hq := qpOrB64_cases b
  unfold choose
  cases isAsciiBytes b <;> cases lineTooLong b <;> cases isStr <;> simp [hq]

theorem bestEncoding_sevenBit_iff (g isStr u : Bool) (b : Bytes) :
    bestEncoding g isStr b u = .sevenBit ↔
      (choose isStr b u = .sevenBit ∧ (g && unsafeRaw isStr none b) = false) := by
  -- the guard turns 7bit / 8bit into quoted-printable or base64 and leaves the other two alone
  unfold bestEncoding
  cases choose isStr b u with
  | sevenBit | eightBit => cases (g && unsafeRaw isStr none b) <;> cases (isStr && qpEfficient b) <;> simp
  | _ => simp

theorem bestEncoding_range (g isStr : Bool) (b : Bytes) :
    bestEncoding g isStr b false = .sevenBit ∨ bestEncoding g isStr b false = .quotedPrintable ∨
    bestEncoding g isStr b false = .base64 := by
  unfold bestEncoding
  rcases choose_range isStr b with h | h | h <;> rw [h]
  · cases (g && unsafeRaw isStr none b) <;> cases (isStr && qpEfficient b) <;> simp
  · exact .inr (.inl rfl)
  · exact .inr (.inr rfl)

theorem best_sevenBit_indep (g isStr : Bool) (b : Bytes) (h : bestEncoding g isStr b true = .sevenBit) :
    bestEncoding g isStr b false = .sevenBit := by
  rw [bestEncoding_sevenBit_iff, choose_sevenBit_iff] at h ⊢
  exact h

/-- a requested encoding is accepted exactly when the matrix allows it for the best one -/
theorem bodyNewWith_isSome (isStr : Bool) (b : Bytes) (e : Enc) :
    (bodyNewWith isStr b e).isSome = compatible e (bestEncoding guard isStr b true) := by
  unfold bodyNewWith
  cases compatible e (bestEncoding guard isStr b true) <;> rfl

/-! ### the reader-side checks over octets other than CR and LF -/

theorem dropCrlf_cons_ne (x : Byte) (r : Bytes) (h : x ≠ 13) : dropCrlf (x :: r) = x :: dropCrlf r := by
  rw [dropCrlf]
  intro _ e _; exact h e

theorem dropCrlf_noCr (l : Bytes) (rest : Bytes) (h : ∀ c ∈ l, c ≠ 13) : dropCrlf (l ++ rest) = l ++ dropCrlf rest := by
  induction l with
  | nil => rfl
  | cons x xs ih =>
    rw [List.cons_append, dropCrlf_cons_ne x _ (h x List.mem_cons_self), ih (fun c hc => h c (List.mem_cons_of_mem _ hc))]
    rfl

theorem linesOkGo_step (lim cur : Nat) (b : Byte) (rest : Bytes) (h13 : b ≠ 13) (h10 : b ≠ 10) :
    linesOkGo lim cur (b :: rest) = linesOkGo lim (cur + 1) rest := by
  rw [linesOkGo]
  · simp [h13, h10]
  · intro r e _; exact h13 e

theorem linesOkGo_run (lim : Nat) (l : Bytes) (cur : Nat) (rest : Bytes) (h : ∀ c ∈ l, c ≠ 13 ∧ c ≠ 10) :
    linesOkGo lim cur (l ++ rest) = linesOkGo lim (cur + l.length) rest := by
  induction l generalizing cur with
  | nil => rfl
  | cons x r ih =>
    have hx := h x List.mem_cons_self
    rw [List.cons_append, linesOkGo_step _ _ _ _ hx.1 hx.2, ih _ (fun c hc => h c (List.mem_cons_of_mem _ hc)),
      List.length_cons, Nat.add_assoc, Nat.add_comm 1]

theorem ntw_skip (c d : Byte) (rest : Bytes) (hd : d ≠ 13) : noTrailingWs (c :: d :: rest) = noTrailingWs (d :: rest) := by
  rw [noTrailingWs]
  · intro e; cases e
  · intro _ e; exact hd (List.cons.inj e).1

theorem ntw_crlf (c : Byte) (rest : Bytes) :
    noTrailingWs (c :: 13 :: 10 :: rest) = (c != 32 && c != 9 && noTrailingWs (13 :: 10 :: rest)) := by
  rw [noTrailingWs]

theorem ntw_cons (c : Byte) (s : Bytes) (h32 : c ≠ 32) (h9 : c ≠ 9) : noTrailingWs (c :: s) = noTrailingWs s := by
  rw [noTrailingWs.eq_def]
  split
  · rename_i e; cases e
  · rename_i e; cases e; simp [noTrailingWs, h32, h9]
  · rename_i e; cases e; simp [h32, h9]
  · rename_i e; cases e; rfl

theorem ntw_of_no_blank (s : Bytes) (h : ∀ c ∈ s, c ≠ 32 ∧ c ≠ 9) : noTrailingWs s = true := by
  induction s with
  | nil => rfl
  | cons c s ih =>
    have hc := h c List.mem_cons_self
    rw [ntw_cons c s hc.1 hc.2, ih (fun d hd => h d (List.mem_cons_of_mem _ hd))]

/-! ### 7bit output obeys the 7bit rules -/

theorem unsafeRaw_cons (isStr : Bool) (prev : Option Byte) (b : Byte) (bs : Bytes) :
    unsafeRaw isStr prev (b :: bs) = false ↔
      b ≠ 0 ∧ (b = 13 → bs.head? = some 10) ∧ (b = 10 → isStr = true ∨ prev = some 13) ∧
        unsafeRaw isStr (some b) bs = false := by
  simp only [unsafeRaw, Bool.or_eq_false_iff, Bool.and_eq_false_iff, decide_eq_false_iff_not, bne_eq_false_iff_eq,
    Bool.not_eq_false', ne_eq, and_assoc, or_assoc, Decidable.imp_iff_not_or]

theorem unsafeRaw_lfAfterCr (prev : Option Byte) (s : Bytes) (h : unsafeRaw false prev s = false) :
    lfAfterCr (prev = some 13) s = true := by
  induction s generalizing prev with
  | nil => rfl
  | cons b bs ih =>
    obtain ⟨-, -, hlf, hrest⟩ := (unsafeRaw_cons ..).mp h
    have := ih (some b) hrest
    rw [show decide (some b = some 13) = decide (b = 13) by simp] at this
    simp only [lfAfterCr, this, Bool.and_true, Bool.or_eq_true, bne_iff_ne, ne_eq, decide_eq_true_eq]
    exact (Classical.em (b = 10)).elim (fun e => .inr ((hlf e).resolve_left nofun)) .inl

theorem unsafeRaw_no_nul (isStr : Bool) (prev : Option Byte) (s : Bytes) (h : unsafeRaw isStr prev s = false) :
    ∀ c ∈ s, c ≠ 0 := by
  induction s generalizing prev with
  | nil => exact List.forall_mem_nil _
  | cons b bs ih =>
    rw [unsafeRaw_cons] at h
    exact List.forall_mem_cons.mpr ⟨h.1, ih _ h.2.2.2⟩

/-- counters `c1` (of `line_too_long`, which counts the LF of the previous line) and `c2 ≤ c1` (of the CRLF line
    scanner) -/
theorem sevenbit_lines {isStr : Bool} {prev : Option Byte} (b : Bytes) (c1 c2 : Nat) (hc : c2 ≤ c1)
    (h1 : lineTooLongGo c1 b = false) (h2 : unsafeRaw isStr prev b = false) : linesOkGo 998 c2 (crlfGo false b) = true := by
  induction b generalizing prev c1 c2 with
  | nil =>
    simp only [lineTooLongGo, decide_eq_false_iff_not, Nat.not_le] at h1
    simp only [crlfGo, linesOkGo, decide_eq_true_eq]
    exact Nat.le_trans hc (Nat.le_trans (Nat.le_of_lt h1) (by decide))
  | cons x xs ih =>
    obtain ⟨-, hcr, -, hrest⟩ := (unsafeRaw_cons ..).mp h2
    rw [lineTooLongGo] at h1
    by_cases hx10 : x = 10
    · -- an LF without a CR gets one
      subst hx10
      simp only [if_true, Bool.or_eq_false_iff, decide_eq_false_iff_not, Nat.not_le] at h1
      have e : crlfGo false (10 :: xs) = 13 :: 10 :: crlfGo false xs := by simp [crlfGo]
      rw [e, linesOkGo, ih 1 0 (Nat.zero_le _) h1.2 hrest, Bool.and_true, decide_eq_true_eq]
      exact Nat.le_trans hc (Nat.le_trans (Nat.le_of_lt h1.1) (by decide))
    · rw [if_neg hx10] at h1
      by_cases hx13 : x = 13
      · -- a CR stands before an LF: the pair is copied, which is what the LF alone gives
        subst hx13
        obtain ⟨ys, rfl⟩ := List.head?_eq_some_iff.mp (hcr rfl)
        have e : crlfGo false (13 :: 10 :: ys) = crlfGo false (10 :: ys) := by simp [crlfGo]
        rw [e]; exact ih (c1 + 1) c2 (Nat.le_succ_of_le hc) h1 hrest
      · have e : crlfGo false (x :: xs) = x :: crlfGo false xs := by simp [crlfGo, hx10, hx13]
        rw [e, linesOkGo_step _ _ _ _ hx13 hx10]; exact ih _ _ (Nat.succ_le_succ hc) h1 hrest

theorem sevenbit_ok_gen (isStr : Bool) (b : Bytes) (h : bestEncoding true isStr b false = .sevenBit) :
    sevenBitOk (if isStr then crlfNormalize b else b) = true := by
  rw [bestEncoding_sevenBit_iff, choose_sevenBit_iff, Bool.true_and] at h
  obtain ⟨⟨hasc, hlong⟩, hu⟩ := h
  -- an octet vector is emitted as it is, which is what the conversion would give
  have e : (if isStr then crlfNormalize b else b) = crlfNormalize b := by
    cases isStr
    · exact (crlfGo_id false b (unsafeRaw_lfAfterCr none b hu)).symm
    · rfl
  rw [e, sevenBitOk, linesOk, crlfNormalize, sevenbit_lines b 0 0 (Nat.le_refl _) hlong hu,
    Bool.and_true, all_crlfGo _ (by decide), List.all_eq_true]
  intro c hc
  have hall : ∀ c ∈ b, c < 128 := by simpa [isAsciiBytes] using hasc
  simpa using ⟨unsafeRaw_no_nul isStr none b hu c hc, hall c hc⟩

/-! ### base64: the alphabet, length and concatenation of encodings -/

/-- characters of a base64 line: the alphabet or `=` -/
def b64Char (c : Byte) : Prop :=
  (65 ≤ c.toNat ∧ c.toNat ≤ 90) ∨ (97 ≤ c.toNat ∧ c.toNat ≤ 122) ∨ (48 ≤ c.toNat ∧ c.toNat ≤ 57) ∨
  c.toNat = 43 ∨ c.toNat = 47 ∨ c.toNat = 61

theorem toNat_ofNat_range {lo hi m : Nat} (h : lo ≤ m ∧ m ≤ hi) (hhi : hi < 256) :
    lo ≤ (UInt8.ofNat m).toNat ∧ (UInt8.ofNat m).toNat ≤ hi := by
  rwa [UInt8.toNat_ofNat_of_lt' (Nat.lt_of_le_of_lt h.2 hhi)]

theorem sym_b64Char (n : Nat) : b64Char (Base64.sym n) := by
  unfold Base64.sym
  by_cases h1 : n < 26
  · rw [if_pos h1]; exact .inl (toNat_ofNat_range (by omega) (by decide))
  by_cases h2 : n < 52
  · rw [if_neg h1, if_pos h2]; exact .inr (.inl (toNat_ofNat_range (by omega) (by decide)))
  by_cases h3 : n < 62
  · rw [if_neg h1, if_neg h2, if_pos h3]; exact .inr (.inr (.inl (toNat_ofNat_range (by omega) (by decide))))
  rw [if_neg h1, if_neg h2, if_neg h3]
  by_cases h4 : n = 62
  · rw [if_pos h4]; exact .inr (.inr (.inr (.inl rfl)))
  · rw [if_neg h4]; exact .inr (.inr (.inr (.inr (.inl rfl))))

theorem pad_b64Char : b64Char 61 := .inr (.inr (.inr (.inr (.inr rfl))))

theorem b64Char_props (c : Byte) (h : b64Char c) : c ≠ 13 ∧ c ≠ 10 ∧ c ≠ 32 ∧ c ≠ 9 ∧ c < 128 := by
  have h43 : 43 ≤ c.toNat ∧ c.toNat < 128 := by unfold b64Char at h; omega
  refine ⟨?_, ?_, ?_, ?_, UInt8.lt_iff_toNat_lt.mpr h43.2⟩ <;> (rintro rfl; exact absurd h43.1 (by decide))

theorem enc_chars (x : Bytes) : ∀ c ∈ Base64.enc x, b64Char c := by
  fun_induction Base64.enc x with
  | case1 a b d t n ih =>
    simp only [List.forall_mem_cons]
    exact ⟨sym_b64Char _, sym_b64Char _, sym_b64Char _, sym_b64Char _, ih⟩
  | case2 a b =>
    simp only [List.forall_mem_cons]
    exact ⟨sym_b64Char _, sym_b64Char _, sym_b64Char _, pad_b64Char, List.forall_mem_nil _⟩
  | case3 a =>
    simp only [List.forall_mem_cons]
    exact ⟨sym_b64Char _, sym_b64Char _, pad_b64Char, pad_b64Char, List.forall_mem_nil _⟩
  | case4 => exact List.forall_mem_nil _

theorem enc_len (x : Bytes) : (Base64.enc x).length = 4 * ((x.length + 2) / 3) := by
  fun_induction Base64.enc x with
  | case1 a b c t n ih =>
    -- three more octets, four more characters
    have e : (t.length + 2 + 3) / 3 = (t.length + 2) / 3 + 1 := Nat.add_div_right _ (Nat.zero_lt_succ 2)
    simp only [List.length_cons, ih]
    exact (congrArg (4 * ·) e).symm
  | case2 a b => simp
  | case3 a => simp
  | case4 => rfl

theorem enc_append (x y : Bytes) (h : x.length % 3 = 0) : Base64.enc (x ++ y) = Base64.enc x ++ Base64.enc y := by
  fun_induction Base64.enc x with
  | case1 a b c t n ih => simp only [List.cons_append, Base64.enc, ih ((Nat.add_mod_right t.length 3).symm.trans h)]; rfl
  | case2 a b => cases h
  | case3 a => cases h
  | case4 => rfl

end LV.BodyEnc
