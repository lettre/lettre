import LettreVerif.Proofs.Dkim
import LettreVerif.Proofs.HeaderPlain
import LettreVerif.Proofs.Utf8Runs
/-!
# C13: the DKIM-Signature field's own contribution to the header hash (relaxed canonicalization)

The signer hashes the field with an empty `b=`, the verifier the received field with the value of `b=` deleted; lettre
folds the two differently. `deleteB` works on the folded text: its items, CR and LF removed (`F`), are the items of the
unfolded tag list, so nothing but the last item changes (`delB_folded`). `deleteB_canon` holds of any tag text without
`b=` and any two names equal up to case; lettre's own tag list comes in through `headerValue_eq` and `tagList_split`.
-/
namespace LV.Dkim
open LV LV.Headers LV.DkimVerifier

theorem F_reverse (x : Bytes) : F x.reverse = (F x).reverse := List.filter_reverse

theorem dropWhile_F (p : Byte → Bool) (h13 : p 13 = true) (h10 : p 10 = true) (x : Bytes) :
    (F x).dropWhile p = F (x.dropWhile p) := by
  rw [F, List.dropWhile_filter]
  congr 2
  funext a
  by_cases ha : a = 13 ∨ a = 10
  · rcases ha with rfl | rfl <;> simp [h13, h10]
  · simp [not_or.mp ha]

theorem trimFws_F (x : Bytes) : trimFws (F x) = F (trimFws x) := by
  simp only [trimFws, dropWhile_F isFws rfl rfl, ← F_reverse]

/-! ## tags -/

theorem drop_takeWhile_length (p : Byte → Bool) (x : Bytes) : x.drop (x.takeWhile p).length = x.dropWhile p := by
  conv => lhs; arg 2; rw [← List.takeWhile_append_dropWhile (p := p) (l := x)]
  exact List.drop_left

theorem tagOf_append (name v : Bytes) (hn : ∀ c ∈ name, c ≠ 61) :
    tagOf (name ++ 61 :: v) = some (trimFws name, v) := by
  rw [tagOf, takeWhile_ne_append hn, List.drop_left]; rfl

theorem tagOf_some {it n v : Bytes} (h : tagOf it = some (n, v)) :
    ∃ name, it = name ++ 61 :: v ∧ (∀ c ∈ name, c ≠ 61) ∧ n = trimFws name := by
  rw [tagOf, drop_takeWhile_length] at h
  split at h
  · rename_i v' hv
    cases h
    refine ⟨it.takeWhile (· != 61), ?_, fun c hc => ?_, rfl⟩
    · rw [← hv, List.takeWhile_append_dropWhile]
    · simpa using List.all_eq_true.mp List.all_takeWhile c hc
  · cases h

/-- the item is the `b=` tag -/
def isB (it : Bytes) : Bool :=
  match tagOf it with
  | some (n, _) => n == str "b"
  | none => false

theorem isB_F (it : Bytes) (h : isB it = true) : isB (F it) = true := by
  unfold isB at h
  split at h
  · rename_i n v ht
    obtain ⟨name, rfl, hn, rfl⟩ := tagOf_some ht
    have : F (name ++ 61 :: v) = F name ++ 61 :: F v := by rw [F_append, F_cons_keep _ _ (by decide)]
    rw [isB, this, tagOf_append (F name) (F v) fun c hc => hn c (mem_F.mp hc).1, trimFws_F, beq_iff_eq.mp h]
    rfl
  · cases h

/-- what `deleteB` does to one item of the tag list -/
def delItem (it : Bytes) : Bytes :=
  match tagOf it with
  | some (n, _) => if n == str "b" then it.takeWhile (· != 61) ++ [61] else it
  | none => it

theorem delItem_notB (it : Bytes) (h : isB it = false) : delItem it = it := by
  unfold isB at h; unfold delItem
  split <;> simp_all

theorem delItem_b (name v : Bytes) (hn : ∀ c ∈ name, c ≠ 61) (hb : trimFws name = str "b") :
    delItem (name ++ 61 :: v) = name ++ [61] := by
  rw [delItem, tagOf_append name v hn, hb, takeWhile_ne_append hn]; rfl

/-! ## splitting at a separator (`;` between tags; the reader also splits `h=` at `:` and `c=` at `/`) -/

def NoSemi (x : Bytes) : Prop := ∀ c ∈ x, c ≠ 59

instance (x : Bytes) : Decidable (NoSemi x) := inferInstanceAs (Decidable (∀ c ∈ x, c ≠ 59))

theorem noSemi_append (a b : Bytes) (ha : NoSemi a) (hb : NoSemi b) : NoSemi (a ++ b) :=
  fun c hc => (List.mem_append.mp hc).elim (ha c) (hb c)

theorem splitOn_cons_sep (sep : Byte) (acc r : Bytes) : splitOn sep acc (sep :: r) = acc.reverse :: splitOn sep [] r :=
  if_pos (beq_iff_eq.mpr rfl)

theorem splitOn_cons_ne {sep c : Byte} (h : c ≠ sep) (acc r : Bytes) :
    splitOn sep acc (c :: r) = splitOn sep (c :: acc) r :=
  if_neg (mt beq_iff_eq.mp h)

theorem splitOn_no_sep {sep : Byte} (a acc : Bytes) (h : ∀ c ∈ a, c ≠ sep) : splitOn sep acc a = [acc.reverse ++ a] := by
  induction a generalizing acc with
  | nil => rw [List.append_nil]; rfl
  | cons c r ih =>
    obtain ⟨hc, hr⟩ := List.forall_mem_cons.mp h
    rw [splitOn_cons_ne hc, ih _ hr, List.reverse_cons, List.append_assoc]; rfl

theorem splitOn_ne_nil {sep : Byte} (x acc : Bytes) : splitOn sep acc x ≠ [] := by
  induction x generalizing acc with
  | nil => exact List.cons_ne_nil _ _
  | cons c r ih =>
    by_cases h : c = sep
    · rw [h, splitOn_cons_sep]; exact List.cons_ne_nil _ _
    · rw [splitOn_cons_ne h]; exact ih _

theorem splitOn_append_sep {sep : Byte} (a acc b : Bytes) :
    splitOn sep acc (a ++ sep :: b) = splitOn sep acc a ++ splitOn sep [] b := by
  induction a generalizing acc with
  | nil => exact splitOn_cons_sep sep acc b
  | cons c r ih =>
    by_cases h : c = sep
    · rw [h, List.cons_append, splitOn_cons_sep, splitOn_cons_sep, ih]; rfl
    · rw [List.cons_append, splitOn_cons_ne h, splitOn_cons_ne h]; exact ih _

def joinOn (sep : Byte) (l : List Bytes) : Bytes := (l.intersperse [sep]).flatten

theorem joinOn_singleton (sep : Byte) (x : Bytes) : joinOn sep [x] = x := by simp [joinOn]

theorem joinOn_cons_cons (sep : Byte) (x y : Bytes) (r : List Bytes) :
    joinOn sep (x :: y :: r) = x ++ sep :: joinOn sep (y :: r) := by
  simp [joinOn]

theorem joinOn_append {sep : Byte} {l m : List Bytes} (hl : l ≠ []) (hm : m ≠ []) :
    joinOn sep (l ++ m) = joinOn sep l ++ sep :: joinOn sep m := by
  induction l with
  | nil => exact absurd rfl hl
  | cons a r ih =>
    cases r with
    | nil => cases m with
      | nil => exact absurd rfl hm
      | cons b m' => rw [joinOn_singleton]; exact joinOn_cons_cons sep a b m'
    | cons b r' =>
      rw [List.cons_append, List.cons_append, joinOn_cons_cons, joinOn_cons_cons, ← List.cons_append,
        ih (List.cons_ne_nil _ _), List.append_assoc]
      rfl

theorem joinOn_concat {sep : Byte} {l : List Bytes} (hl : l ≠ []) (x : Bytes) :
    joinOn sep (l ++ [x]) = joinOn sep l ++ sep :: x := by
  rw [joinOn_append hl (List.cons_ne_nil x []), joinOn_singleton]

theorem joinOn_splitOn (sep : Byte) (x acc : Bytes) : joinOn sep (splitOn sep acc x) = acc.reverse ++ x := by
  induction x generalizing acc with
  | nil => exact (joinOn_singleton sep _).trans (List.append_nil _).symm
  | cons c r ih =>
    by_cases hc : c = sep
    · cases hs : splitOn sep [] r with
      | nil => exact absurd hs (splitOn_ne_nil r [])
      | cons y ys => rw [hc, splitOn_cons_sep, hs, joinOn_cons_cons, ← hs, ih []]; rfl
    · rw [splitOn_cons_ne hc, ih (c :: acc), List.reverse_cons, List.append_assoc]; rfl

theorem splitOn_joinOn {sep : Byte} (l : List Bytes) (h : l ≠ []) (hn : ∀ x ∈ l, ∀ c ∈ x, c ≠ sep) :
    splitOn sep [] (joinOn sep l) = l := by
  induction l with
  | nil => exact absurd rfl h
  | cons x l ih =>
    obtain ⟨hx, hl⟩ := List.forall_mem_cons.mp hn
    cases l with
    | nil => rw [joinOn_singleton]; exact splitOn_no_sep x [] hx
    | cons y r =>
      rw [joinOn_cons_cons, splitOn_append_sep, splitOn_no_sep x [] hx, ih (List.cons_ne_nil _ _) hl]
      rfl

/-- what `deleteB` does to the value of the field -/
def delB (v : Bytes) : Bytes :=
  (((splitOn 59 [] v).map fun it =>
    match tagOf it with
    | some (n, _) => if n == str "b" then it.takeWhile (· != 61) ++ [61] else it
    | none => it).intersperse [59]).flatten

theorem delB_eq (v : Bytes) : delB v = joinOn 59 ((splitOn 59 [] v).map delItem) := rfl

theorem deleteB_eq (f : Field) : deleteB f = fieldName f ++ [58] ++ delB (fieldValue f) := rfl

theorem delB_append_semi (a b : Bytes) : delB (a ++ 59 :: b) = delB a ++ 59 :: delB b := by
  simp only [delB_eq, splitOn_append_sep, List.map_append]
  exact joinOn_append (by simpa using splitOn_ne_nil a []) (by simpa using splitOn_ne_nil b [])

theorem delB_notB (a : Bytes) (ha : ∀ it ∈ splitOn 59 [] a, isB it = false) : delB a = a := by
  rw [delB_eq, List.map_congr_left fun it hit => delItem_notB it (ha it hit), List.map_id', joinOn_splitOn]; rfl

/-- the last item is `X b=sig` (98, 61: `b=`) -/
theorem delB_tail (A X sig : Bytes) (hA : ∀ it ∈ splitOn 59 [] A, isB it = false) (hX : ∀ c ∈ X, isFws c = true)
    (hX59 : NoSemi X) (hs : NoSemi sig) : delB (A ++ 59 :: (X ++ 98 :: 61 :: sig)) = A ++ 59 :: (X ++ [98, 61]) := by
  have hL : NoSemi (X ++ 98 :: 61 :: sig) :=
    noSemi_append X _ hX59 (List.forall_mem_cons.mpr ⟨by decide, List.forall_mem_cons.mpr ⟨by decide, hs⟩⟩)
  have hX61 : ∀ c ∈ X ++ [98], c ≠ 61 :=
    List.forall_mem_append.mpr ⟨fun c h e => absurd (hX c h) (e ▸ by decide), by decide⟩
  have hb : trimFws (X ++ [98]) = str "b" := by
    rw [trimFws, List.dropWhile_append_of_pos hX]; rfl
  rw [delB_append_semi, delB_notB A hA, delB_eq, splitOn_no_sep _ [] hL]
  have := delItem_b (X ++ [98]) sig hX61 hb
  simp only [List.append_assoc, List.singleton_append] at this
  simp [joinOn, this]

theorem splitOn_F (sep : Byte) (hs : sep ≠ 13 ∧ sep ≠ 10) (x acc : Bytes) :
    splitOn sep (F acc) (F x) = (splitOn sep acc x).map F := by
  induction x generalizing acc with
  | nil => exact congrArg (fun l => [l]) (F_reverse acc).symm
  | cons c r ih =>
    by_cases hc : c = 13 ∨ c = 10
    · -- CR and LF are no separators: they would go into `acc`
      have hne : c ≠ sep := by
        rcases hc with rfl | rfl
        · exact hs.1.symm
        · exact hs.2.symm
      have hF : ∀ y, F (c :: y) = F y := fun y => by rcases hc with rfl | rfl <;> rfl
      rw [hF, splitOn_cons_ne hne, ← ih, hF]
    · have hk : c ≠ 13 ∧ c ≠ 10 := not_or.mp hc
      rw [F_cons_keep _ _ hk]
      by_cases h : c = sep
      · rw [h, splitOn_cons_sep, splitOn_cons_sep, List.map_cons, ← ih, F_reverse]; rfl
      · rw [splitOn_cons_ne h, splitOn_cons_ne h, ← ih, F_cons_keep _ _ hk]

theorem exists_last_semi (c : Bytes) (h : 59 ∈ c) : ∃ A z, c = A ++ 59 :: z ∧ NoSemi z := by
  induction c with
  | nil => cases h
  | cons x r ih =>
    by_cases hr : 59 ∈ r
    · obtain ⟨A, z, rfl, hz⟩ := ih hr
      exact ⟨x :: A, z, rfl, hz⟩
    · obtain rfl : 59 = x := (List.mem_cons.mp h).resolve_right hr
      exact ⟨[], r, rfl, fun c hc e => hr (e ▸ hc)⟩

/-- `c`: everything before `b=` in the folded field; CR and LF removed, it is a tag list `P` without `b=`, then `; ` -/
theorem delB_folded (c P sig : Bytes) (hP : ∀ it ∈ splitOn 59 [] P, isB it = false) (hF : F c = P ++ 59 :: [32])
    (hs : NoSemi sig) : delB (c ++ 98 :: 61 :: sig) = c ++ [98, 61] := by
  obtain ⟨A, z, rfl, hz⟩ :=
    exists_last_semi c (mem_F.mp (hF ▸ List.mem_append_right P List.mem_cons_self)).1
  -- the items of `A`, CR and LF removed, are those of `P`, and `z` is the folded blank
  have hsp := splitOn_F 59 (by decide) (A ++ 59 :: z) []
  rw [hF, splitOn_append_sep, splitOn_append_sep, splitOn_no_sep z [] hz, splitOn_no_sep [32] [] (by decide),
    List.map_append] at hsp
  obtain ⟨hA, hz32⟩ := List.append_inj' hsp rfl
  have hz32 : F z = [32] := (List.cons.inj hz32).1.symm
  have hzf : ∀ x ∈ z, isFws x = true := fun x hx => by
    by_cases hk : x = 13 ∨ x = 10
    · rcases hk with rfl | rfl <;> rfl
    · rw [List.mem_singleton.mp (hz32 ▸ mem_F.mpr ⟨hx, not_or.mp hk⟩ : x ∈ [32])]; rfl  -- kept by `F`: it is the SP
  have hA' : ∀ it ∈ splitOn 59 [] A, isB it = false := fun it hit => by
    cases hb : isB it with
    | false => rfl
    | true => rw [← hP (F it) (hA ▸ List.mem_map_of_mem hit)]; exact (isB_F it hb).symm
  rw [List.append_assoc, List.cons_append, delB_tail A z sig hA' hzf hz hs, List.append_assoc]; rfl

/-! ## the tag list lettre writes -/

/-- the tags before `b=`, as lettre writes them -/
def tagList (cfg : Cfg) (ts : Nat) (bh : Bytes) : List (Bytes × Bytes) :=
  [(str "v", str "1"), (str "a", cfg.alg ++ str "-sha256"), (str "d", cfg.domain), (str "s", cfg.selector),
   (str "c", canonName cfg.hc ++ [47] ++ canonName cfg.bc), (str "q", str "dns/txt"), (str "t", natDec ts),
   (str "h", hList cfg), (str "bh", bh)]

/-- a tag as an item of the list: it starts with the space that follows the `;` -/
def item (t : Bytes × Bytes) : Bytes := 32 :: t.1 ++ 61 :: t.2

theorem headerValue_eq (cfg : Cfg) (ts : Nat) (bh sig : Bytes) :
    32 :: headerValue cfg ts bh sig = joinOn 59 ((tagList cfg ts bh).map item) ++ 59 :: (32 :: 98 :: 61 :: sig) := by
  -- ` b=sig` becomes a tenth item. `↓`: from the root down `headerValue` is re-associated in one step per `++`, from the
  -- leaves up in quadratically many
  rw [← joinOn_concat (by simp [tagList])]
  simp only [headerValue, tagList, List.map_cons, List.map_nil, List.cons_append, List.nil_append, joinOn_cons_cons,
    joinOn_singleton, item, ↓ List.append_assoc]
  rfl

/-- the tag list as one text, which starts with ` v`. The first octet is read off the right-nested form above:
    `⟨_, rfl⟩ : ∃ t, headerValue cfg ts bh [] = 118 :: t` sends `whnf` through the left-nested appends of `headerValue`
    with a metavariable on the right, at seven times the cost of this whole file -/
theorem headerValue_split (cfg : Cfg) (ts : Nat) (bh : Bytes) :
    ∃ p, joinOn 59 ((tagList cfg ts bh).map item) = 32 :: 118 :: p ∧
      ∀ s, headerValue cfg ts bh s = 118 :: p ++ 59 :: 32 :: 98 :: 61 :: s :=
  ⟨_, rfl, fun s => (List.cons.inj (headerValue_eq cfg ts bh s)).2⟩

theorem tagList_keys (cfg : Cfg) (ts : Nat) (bh : Bytes) : ∀ t ∈ tagList cfg ts bh,
    (∀ c ∈ 32 :: t.1, c ≠ 61 ∧ c ≠ 59) ∧ (trimFws (32 :: t.1) == str "b") = false := by
  have keys : ∀ k ∈ [str "v", str "a", str "d", str "s", str "c", str "q", str "t", str "h", str "bh"],
      (∀ c ∈ 32 :: k, c ≠ 61 ∧ c ≠ 59) ∧ (trimFws (32 :: k) == str "b") = false := by decide +kernel
  exact fun t ht => keys t.1 (List.mem_map_of_mem (f := Prod.fst) ht)

theorem digit_bytes (c : Char) (h : c.isDigit = true) : ∀ b ∈ String.utf8EncodeChar c, 48 ≤ b.toNat ∧ b.toNat ≤ 57 := by
  have hc : 48 ≤ c.val.toNat ∧ c.val.toNat ≤ 57 := by
    simp only [Char.isDigit, Bool.and_eq_true, decide_eq_true_eq] at h
    exact ⟨h.1, h.2⟩
  -- a digit is encoded as one octet, its code
  have e : String.utf8EncodeChar c = [UInt8.ofNat c.val.toNat] := if_pos (Nat.le_trans hc.2 (by decide))
  intro b hb
  rw [e, List.mem_singleton] at hb
  rw [hb, UInt8.toNat_ofNat', Nat.mod_eq_of_lt (Nat.lt_of_le_of_lt hc.2 (by decide))]
  exact hc

theorem natDec_digits (n : Nat) : ∀ b ∈ natDec n, 48 ≤ b.toNat ∧ b.toNat ≤ 57 := by
  intro b hb
  rw [natDec, Nat.toString_eq_ofList_toDigits, ← encodeUtf8, Utf8Runs.encodeUtf8_eq] at hb
  obtain ⟨c, hc, hbc⟩ := List.mem_flatMap.mp hb
  exact digit_bytes c (Nat.isDigit_of_mem_toDigits (by decide) (by decide) hc) b hbc

/-- what the configuration and the body hash contribute to the tag list contains no `;` -/
structure CfgOk (cfg : Cfg) (bh : Bytes) : Prop where
  alg : NoSemi cfg.alg
  domain : NoSemi cfg.domain
  selector : NoSemi cfg.selector
  names : NoSemi (hList cfg)
  bh : NoSemi bh

theorem noSemi_canon (c : Canon) : NoSemi (canonName c) := by cases c <;> decide

theorem tagList_noSemi (cfg : Cfg) (ts : Nat) (bh : Bytes) (h : CfgOk cfg bh) :
    ∀ it ∈ (tagList cfg ts bh).map item, NoSemi it := by
  have values : ∀ t ∈ tagList cfg ts bh, NoSemi t.2 := by
    simp only [tagList, List.forall_mem_cons]
    exact ⟨by decide, noSemi_append _ _ h.alg (by decide), h.domain, h.selector,
      noSemi_append _ _ (noSemi_append _ _ (noSemi_canon _) (by decide)) (noSemi_canon _), by decide,
      fun c hc e => absurd (natDec_digits ts c hc).2 (e ▸ by decide), h.names, h.bh, List.forall_mem_nil _⟩
  intro it hit
  obtain ⟨t, ht, rfl⟩ := List.mem_map.mp hit
  exact noSemi_append (32 :: t.1) (61 :: t.2) (fun c hc => ((tagList_keys cfg ts bh t ht).1 c hc).2)
    (List.forall_mem_cons.mpr ⟨by decide, values t ht⟩)

theorem tagList_splitOn (cfg : Cfg) (ts : Nat) (bh : Bytes) (h : CfgOk cfg bh) :
    splitOn 59 [] (joinOn 59 ((tagList cfg ts bh).map item)) = (tagList cfg ts bh).map item :=
  splitOn_joinOn _ (by simp [tagList]) (tagList_noSemi cfg ts bh h)

theorem tagList_split (cfg : Cfg) (ts : Nat) (bh : Bytes) (h : CfgOk cfg bh) :
    ∀ it ∈ splitOn 59 [] (joinOn 59 ((tagList cfg ts bh).map item)), isB it = false := by
  rw [tagList_splitOn cfg ts bh h]
  intro it hit
  obtain ⟨t, ht, rfl⟩ := List.mem_map.mp hit
  obtain ⟨hk, hb⟩ := tagList_keys cfg ts bh t ht
  rw [isB, item, tagOf_append (32 :: t.1) t.2 fun c hc => (hk c hc).1]
  exact hb

open LV.HeaderEnc

theorem wf_of_scan (x : Bytes) (h : scan .norm x = some .norm) : wfValue x = true := by
  induction x, h using scan_induct with
  | nil => rfl
  | plain e r he hp _ ih => exact wf_cons he (by rintro rfl; cases hp) ih
  | fold r _ ih => exact wf_fold rfl (wf_cons (by decide) (by decide) ih)

theorem b64_printable (c : Byte) (h : BodyEnc.b64Char c) : printable c = true := by
  unfold BodyEnc.b64Char at h
  have : 32 ≤ c.toNat ∧ c.toNat ≤ 126 := by omega
  simp [printable, this]

theorem b64_noSemi (t : Bytes) (ht : ∀ c ∈ t, BodyEnc.b64Char c) : NoSemi t :=
  fun c hc e => absurd (ht 59 (e ▸ hc)) (by unfold BodyEnc.b64Char; decide)

theorem b64_plainWord (t : Bytes) (ht : ∀ c ∈ t, BodyEnc.b64Char c) : (∀ c ∈ t, c ≠ 32) ∧ PlainWord t := by
  have hp := fun c hc => BodyEnc.b64Char_props c (ht c hc)
  refine ⟨fun c hc => (hp c hc).2.2.1, List.all_eq_true.mpr fun c hc => b64_printable c (ht c hc), ?_⟩
  -- the only token is `t` itself, and `?` is no base64 character
  have hws := wsTokens_run t (fun c hc => ⟨(hp c hc).2.2.1, (hp c hc).2.2.2.1⟩) [] []
  rw [List.append_nil] at hws
  have pre : [61, 63].isPrefixOf t = false := Bool.eq_false_iff.mpr fun h =>
    absurd (ht 63 ((List.isPrefixOf_iff_prefix.mp h).subset (by simp))) (by unfold BodyEnc.b64Char; decide)
  rw [hasEncMarker, hws]
  simp only [wsTokens, List.append_nil, List.reverse_reverse, List.any_cons, List.any_nil, pre, Bool.and_false,
    Bool.false_and, Bool.or_false]

/-- `p`: a tag list without `b=` whose words, like `sig`, lettre writes as they are. The two values are folded
    differently (the last word is `b=sig` in one and `b=` in the other, the names may differ in length); what was
    written before the last word unfolds to `p; ` in both, and `deleteB` leaves it as it is -/
theorem deleteB_canon {name name' : Bytes} (hn : NameOk name) (hn' : NameOk name') (hl : lowerName name = lowerName name')
    (p sig : Bytes) (hplain : ∀ x ∈ splitInclusive [] (p ++ 59 :: 32 :: [98, 61]), PlainWord x)
    (hP : ∀ it ∈ splitOn 59 [] (32 :: p), isB it = false) (hsig : ∀ c ∈ sig, BodyEnc.b64Char c) :
    relaxedField (deleteB (fld (HV.new name (p ++ 59 :: 32 :: 98 :: 61 :: sig)))) =
      relaxedField (fld (HV.new name' (p ++ 59 :: 32 :: [98, 61]))) := by
  obtain ⟨ht32, htp⟩ := b64_plainWord (98 :: 61 :: sig)
    (List.forall_mem_cons.mpr ⟨by unfold BodyEnc.b64Char; decide, List.forall_mem_cons.mpr ⟨BodyEnc.pad_b64Char, hsig⟩⟩)
  have hws : ∀ x ∈ splitInclusive [] ((p ++ [59]) ++ [32]), PlainWord x := fun x hx => hplain x <| by
    rw [List.append_cons p 59, splitInclusive_snoc _ [] [98, 61] (by decide) (List.cons_ne_nil _ _)]
    exact List.mem_append_left _ hx
  -- `w`: the writer's state before the last word `b=sig`; `hi` its invariant, `hv`: what it has written unfolds to `p; `,
  -- `he`: the encoded value is `w.out` followed by the last word
  obtain ⟨w, hi, hv, he⟩ :=
    encodeValue_last name.length (p ++ [59]) (98 :: 61 :: sig) ht32 (List.cons_ne_nil _ _) htp hws
  rw [List.append_assoc, List.singleton_append] at he
  have hsc : scan .norm (32 :: w.out) = some .norm := (scan_norm_step (by decide) (by decide) _).trans (view_scan hi)
  have hu : HeaderReader.unfold (32 :: w.out) = (32 :: p) ++ 59 :: [32] := by
    rw [unfold_cons_ne13 _ _ (by decide), ← W.view, hv, List.append_assoc]; rfl
  have hdel : deleteB (fld (HV.new name (p ++ 59 :: 32 :: 98 :: 61 :: sig))) = fld ⟨name, [], w.out ++ [98, 61]⟩ := by
    rw [deleteB_eq, fieldName_fld _ hn, fieldValue_fld _ hn, HV.new, he, ← List.cons_append,
      delB_folded (32 :: w.out) _ sig hP ((unfold_eq_F _ (wf_of_scan _ hsc)).symm.trans hu) (b64_noSemi sig hsig),
      fld_eq]
    exact List.append_assoc _ _ _
  -- both fields unfold to `p; b=`
  rw [hdel]
  refine relaxedField_congr hn hn' hl ?_
  rw [← List.cons_append, unfold_append_wf hsc, hu, unfold_cons_ne13 _ _ (by decide)]
  exact ((congrArg (32 :: ·) (unfold_encodeValue_plain _ _ hplain)).trans (by rw [List.append_assoc]; rfl)).symm

theorem nameOk_sigName : NameOk sigName := ⟨by decide, by decide⟩

theorem sig_field_canon_agrees (cfg : Cfg) (ts : Nat) (bh sig : Bytes) (hcfg : CfgOk cfg bh)
    (hplain : ∀ x ∈ splitInclusive [] (headerValue cfg ts bh []), PlainWord x)
    (hsig : ∀ c ∈ sig, BodyEnc.b64Char c) :
    relaxedField (deleteB (fld (HV.new sigName (headerValue cfg ts bh sig)))) =
      relaxedField (fld (HV.new (lowerName sigName) (headerValue cfg ts bh []))) := by
  obtain ⟨p, hp, hS⟩ := headerValue_split cfg ts bh
  rw [hS sig, hS []]
  exact deleteB_canon nameOk_sigName (nameOk_lower nameOk_sigName) (lowerName_idem sigName).symm (118 :: p) sig
    (hS [] ▸ hplain) (hp ▸ tagList_split cfg ts bh hcfg) hsig

/-! ## the signer's side and the final form -/

theorem plainField_wf {name value : Bytes} (hn : NameOk name) (hs : ∃ d t, name = d :: t ∧ DkimVerifier.isWsp d = false)
    (hplain : ∀ x ∈ splitInclusive [] value, PlainWord x) {d : Byte} {t : Bytes} (hv : value = d :: t)
    (hd : DkimVerifier.isWsp d = false) :
    WFMailField (HV.new name value) ∧ Plain (HeaderReader.unfold (HV.new name value).encoded) := by
  have hp := plain_of_words value hplain
  have hu : HeaderReader.unfold (HV.new name value).encoded = value := unfold_encodeValue_plain _ _ hplain
  have hwf : wfValue (HV.new name value).encoded = true :=
    wf_of_scan _ (encodeValue_wf true _ _ (printable_contRuns _ hp))
  refine ⟨⟨hn.noColon, hn.noTrail, hs, hwf, fun d' t' hdt => ?_⟩, hu.symm ▸ hp⟩
  -- the value starts with `d`, before and after unfolding
  obtain ⟨r, hr⟩ := head_of_unfold hwf (hu.trans hv) hd
  rw [hr, List.dropWhile_cons_of_neg (Bool.eq_false_iff.mp hd)] at hdt
  exact (List.cons.inj hdt).1 ▸ printable_not_cr d (hp d (hv ▸ List.mem_cons_self))

/-- the class on the right is `trim_end`'s white space -/
theorem printable_not_trimmed {x : Byte} (hp : printable x = true) (hx : DkimVerifier.isWsp x = false) :
    ¬ (x == 32 || (9 ≤ x.toNat && x.toNat ≤ 13)) = true := by
  simp only [DkimVerifier.isWsp, printable, Bool.or_eq_true, Bool.or_eq_false_iff, beq_iff_eq, beq_eq_false_iff_ne,
    Bool.and_eq_true, decide_eq_true_eq, ne_eq, ← UInt8.toNat_inj, UInt8.reduceToNat] at hp hx ⊢
  -- not SP, and from HTAB to CR only HTAB is printable
  rintro (h | ⟨-, h13⟩)
  · exact hx.1 h
  · exact hp.elim hx.2 fun h32 => absurd (Nat.le_trans h32.1 h13) (by decide)

/-- `trim_end` takes off exactly the final CRLF: the octet before it is the colon or the last of the value -/
theorem trimEnd_relaxedField (name v : Bytes) (hv : ∀ c ∈ v, printable c = true) (hs : stripTrailingWsp v = v) :
    trimEnd ((name ++ 58 :: v) ++ CRLF) = name ++ 58 :: v := by
  rcases strip_shape v with h | ⟨r, x, h, hx⟩
  · rw [← hs, h, List.append_assoc]
    exact rdrop_snoc name (by decide) CRLF (by decide)
  · rw [hs] at h
    rw [h, ← List.cons_append, ← List.append_assoc, List.append_assoc _ [x]]
    exact rdrop_snoc _ (printable_not_trimmed (hv x (h ▸ List.mem_append_right r List.mem_cons_self)) hx) CRLF (by decide)

theorem take_crlf (x : Bytes) : (x ++ CRLF).take ((x ++ CRLF).length - 2) = x := by
  simp [CRLF]

/-- how the signer hashes its own signature field: as the one field `f` under a list that names only it -/
theorem signer_sig_part (n : Bytes) (f : HV) (hw : WFMailField f) (hp : Plain (HeaderReader.unfold f.encoded))
    (hn : eqName f.name n = true) :
    trimEnd (canonHeaders opts .relaxed [n] [f]) = (relaxedField (fld f)).take ((relaxedField (fld f)).length - 2) := by
  have hok := nameOk_of_mail hw
  have hsel : select [n] [fld f] = [fld f] := by simp [select, selectGo, nameIs_fld n f hok, hn]
  rw [signed_fields_agree opts [n] [f] ⟨nofun, trivial⟩ (List.forall_mem_singleton.mpr hw), List.map_singleton, hsel,
    List.map_singleton, List.flatten_singleton, relaxedField_fld f hok,
    trimEnd_relaxedField _ _ (fun c hc => ?_) (strip_relaxedLine _), take_crlf]
  -- the octets of the canonical value are SP and octets of the unfolded value
  rcases mem_relaxedLine _ c hc with rfl | hc
  · rfl
  · rw [unfold_cons_ne13 _ _ (by decide)] at hc
    exact (List.mem_cons.mp ((List.dropWhile_sublist _).subset hc)).elim (· ▸ rfl) (hp c)

theorem header_input_agrees_relaxed (cfg : Cfg) (ts : Nat) (m : Msg) (sig : Bytes) (hc : cfg.hc = .relaxed)
    (hu : Unique (m.signable opts cfg.names)) (hw : ∀ h ∈ m.signable opts cfg.names, WFMailField h)
    (hcfg : CfgOk cfg (bhOf opts cfg m))
    (hplain : ∀ x ∈ splitInclusive [] (headerValue cfg ts (bhOf opts cfg m) []), PlainWord x)
    (hsig : ∀ c ∈ sig, BodyEnc.b64Char c) :
    headerInput opts cfg ts m =
      ((select cfg.names ((m.signable opts cfg.names).map fld)).map relaxedField).flatten ++
      (relaxedField (deleteB (fld (HV.new sigName (headerValue cfg ts (bhOf opts cfg m) sig))))).take
        ((relaxedField (deleteB (fld (HV.new sigName (headerValue cfg ts (bhOf opts cfg m) sig))))).length - 2) := by
  -- the field the signer hashes for the signature itself: lower-case name (100 is its first octet, `d`), the value
  -- starts with `v`
  obtain ⟨p, -, hS⟩ := headerValue_split cfg ts (bhOf opts cfg m)
  obtain ⟨hw0, hp0⟩ := plainField_wf (nameOk_lower nameOk_sigName) ⟨100, _, rfl, rfl⟩ hplain (hS []) (by decide)
  rw [headerInput, hc, signed_fields_agree opts cfg.names _ hu hw, sig_field_canon_agrees cfg ts _ sig hcfg hplain hsig]
  exact congrArg _ (signer_sig_part sigName _ hw0 hp0 ((eqName_iff _ _).mpr (lowerName_idem sigName)))

end LV.Dkim
