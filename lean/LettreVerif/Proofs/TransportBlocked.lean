import LettreVerif.Proofs.TransportOnce
/-!
# How long one `send_raw` can wait on silent peers (C20, transport level)

`Conn.blocked` counts the reads of a connection that waited on a silent peer; `Pool.totalBlocked` sums it over every
connection of the transport.  Each operation of the transport gets its bound here: a check-out over `n` parked connections
`2·n + 2`, the return of the connection one; with the two of the transaction (`send_blocked`) they add up to the `2·n + 5`
of `C20.send_raw_waits_bounded`, whose docstring says which reads these are.
-/
namespace LV.Transport
open LV LV.Client

theorem blocked_setConn (p : Pool) (i : Nat) (c c0 : Conn) (h : p.conns[i]? = some c0) :
    (p.setConn i c).totalBlocked + c0.blocked = p.totalBlocked + c.blocked :=
  sum_set (·.blocked) p.conns i c c0 h

theorem blocked_setConn_le (p : Pool) (i : Nat) {c c0 : Conn} {k : Nat} (h : p.conns[i]? = some c0)
    (hb : c.blocked ≤ c0.blocked + k) : (p.setConn i c).totalBlocked ≤ p.totalBlocked + k := by
  have := blocked_setConn p i c c0 h
  omega

theorem read_blocked_le (c : Conn) : c.read.1.blocked ≤ c.blocked + 1 := (read_wrote c).blocked_le

@[simp] theorem blocked_idle (p : Pool) (l : List Nat) : ({ p with idle := l } : Pool).totalBlocked = p.totalBlocked := rfl

theorem greet_blocked (c : Conn) (hello : Bytes) (h : c.shut = false) : (c.greet hello).1.blocked ≤ c.blocked + 2 := by
  rcases greet_spec c hello h with ⟨c', e, h1, hw⟩ | ⟨c', i, h1, hw⟩ | ⟨c', e, h1, hc⟩ <;> rw [h1]
  · exact Nat.le_succ_of_le hw.blocked_le
  · exact Nat.le_add_right_of_le hw.blocked_le
  · exact hc.blocked_le

theorem open_blocked (p : Pool) : p.open.1.totalBlocked ≤ p.totalBlocked + 2 := by
  rcases open_spec p with h | ⟨c0, hs, _, hb, h, _⟩ <;> rw [h]
  · exact Nat.le_add_right ..
  · have := greet_blocked c0 p.hello hs
    simp only [Pool.totalBlocked, List.map_append, List.sum_append, List.map_cons, List.map_nil, List.sum_cons, List.sum_nil]
    omega

theorem acquire_blocked (p : Pool) (l : List Nat) : (p.acquire l).1.totalBlocked ≤ p.totalBlocked + 2 * l.length + 2 := by
  -- cases as in `acquire_data` (Proofs/TransportOnce.lean)
  fun_induction Pool.acquire p l with
  | case1 p => exact open_blocked _
  | case2 p i rest _ ih => exact Nat.le_trans ih (by simp only [List.length_cons]; omega)
  | case3 p i rest c hc c' htc =>
    have := blocked_setConn_le p i hc (testConnected_wrote htc).1.blocked_le
    simp only [blocked_idle, List.length_cons]
    omega
  | case4 p i rest c hc c' ok htc _ ih =>
    -- the probe, and the QUIT of `abort`
    have := blocked_setConn_le p i hc (testConnected_wrote htc).1.abort.blocked_le
    simp only [List.length_cons]
    omega

theorem recycle_blocked (p : Pool) (i : Nat) : (p.recycle i).totalBlocked ≤ p.totalBlocked + 1 := by
  rcases recycle_cases p i with h | ⟨c, hc, h⟩ | ⟨c, _, _, h⟩ <;> rw [h]
  · exact Nat.le_succ _
  · exact blocked_setConn_le p i hc (abort_closed c).blocked_le
  · exact Nat.le_succ _

end LV.Transport
