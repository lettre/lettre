import LettreVerif.Model.Mime
import LettreVerif.Spec.MimeParse
import LettreVerif.Proofs.HeaderReader
/-!
# Proofs for C11: the RFC 2046 reader of `Spec/MimeParse.lean` recovers every formatted tree

Line by line, the body of a formatted multipart is a delimiter line and the lines of each part without its last CRLF
(`core`), then the closing delimiter line; the cutter looks only at how each line classifies and so gives the `core`s
back; the rest is one induction over the tree.
-/
namespace LV.MimeProof
open LV.Mime LV.MimeParse LV.HeaderReader LV.HeaderEnc

/-! ## lines -/

theorem bodyLines_ne_nil (cur s : Bytes) : bodyLines cur s ≠ [] := by
  fun_induction bodyLines cur s <;> simp_all

theorem bodyLines_append (a cur b : Bytes) :
    bodyLines cur (a ++ CRLF ++ b) = bodyLines cur a ++ bodyLines [] b := by
  rw [List.append_assoc]
  show bodyLines cur (a ++ 13 :: 10 :: b) = _
  fun_induction bodyLines cur a with
  | case1 cur => rfl
  | case2 cur r ih => exact congrArg (cur.reverse :: ·) ih
  | case3 cur x r hne ih =>
    rw [List.cons_append, bodyLines]
    · exact ih
    · intro r' h e
      cases r with
      | nil => simp at e
      | cons y ys =>
        simp only [List.cons_append, List.cons.injEq] at e
        exact hne ys h (by rw [e.1])

def NoCR (s : Bytes) : Prop := ∀ b ∈ s, b ≠ 13

theorem NoCR.append {a b : Bytes} (ha : NoCR a) (hb : NoCR b) : NoCR (a ++ b) :=
  fun x hx => (List.mem_append.mp hx).elim (ha x) (hb x)

theorem bodyLines_noCR (s cur : Bytes) (h : NoCR s) : bodyLines cur s = [cur.reverse ++ s] := by
  induction s generalizing cur with
  | nil => simp [bodyLines]
  | cons x r ih =>
    have hx : x ≠ 13 := h x (by simp)
    rw [bodyLines]
    · rw [ih _ (fun b hb => h b (by simp [hb]))]; simp
    · intro r' e; exact absurd e hx

theorem joinCrlf_cons (l : Bytes) (ls : List Bytes) (h : ls ≠ []) : joinCrlf (l :: ls) = l ++ CRLF ++ joinCrlf ls := by
  cases ls with
  | nil => exact absurd rfl h
  | cons a as => simp [joinCrlf]

theorem joinCrlf_bodyLines (cur s : Bytes) : joinCrlf (bodyLines cur s) = cur.reverse ++ s := by
  fun_induction bodyLines cur s with
  | case1 cur => simp [joinCrlf]
  | case2 cur r ih => rw [joinCrlf_cons _ _ (bodyLines_ne_nil _ _), ih]; simp [CRLF]
  | case3 cur x r hne ih => rw [ih]; simp

/-! ## delimiter lines -/

/-- a boundary the reader can find: no CR in it and it does not end with white space -/
def BdOk (bd : Bytes) : Prop := NoCR bd ∧ ∀ x, bd.getLast? = some x → x ≠ 32 ∧ x ≠ 9

theorem strip_eq (l : Bytes) (h : ∀ x, l.getLast? = some x → x ≠ 32 ∧ x ≠ 9) : stripTrailingWs l = l := by
  rcases List.eq_nil_or_concat l with rfl | ⟨init, x, rfl⟩
  · rfl
  · have := h x (by simp)
    simp [stripTrailingWs, this.1, this.2]

theorem strip_delim (bd : Bytes) (h : BdOk bd) : stripTrailingWs (dashes ++ bd) = dashes ++ bd := by
  apply strip_eq
  intro x hx
  rw [List.getLast?_append] at hx
  cases hb : bd.getLast? with
  | none => rw [hb] at hx; cases hx; decide
  | some y => rw [hb] at hx; cases hx; exact h.2 _ hb

theorem strip_close (bd : Bytes) : stripTrailingWs (dashes ++ bd ++ dashes) = dashes ++ bd ++ dashes := by
  apply strip_eq
  intro x hx
  rw [List.getLast?_append] at hx
  cases hx; decide

theorem classify_eq (bd l : Bytes) : classify bd l =
    if stripTrailingWs l == dashes ++ bd then .delim
    else if stripTrailingWs l == dashes ++ bd ++ dashes then .close else .other := rfl

theorem classify_delim (bd : Bytes) (h : BdOk bd) : classify bd (dashes ++ bd) = .delim := by
  rw [classify_eq, strip_delim bd h, if_pos (beq_self_eq_true _)]

theorem classify_close (bd : Bytes) : classify bd (dashes ++ bd ++ dashes) = .close := by
  rw [classify_eq, strip_close, if_neg (by rw [beq_iff_eq, List.append_right_eq_self]; decide),
    if_pos (beq_self_eq_true _)]

theorem noCR_dashes : NoCR dashes := by unfold NoCR; decide

theorem noCR_delim {bd : Bytes} (hb : BdOk bd) : NoCR (dashes ++ bd) := noCR_dashes.append hb.1

theorem noCR_close {bd : Bytes} (hb : BdOk bd) : NoCR (dashes ++ bd ++ dashes) := (noCR_delim hb).append noCR_dashes

theorem lines_close {bd : Bytes} (hb : BdOk bd) : bodyLines [] (dashes ++ bd ++ dashes) = [dashes ++ bd ++ dashes] :=
  bodyLines_noCR _ [] (noCR_close hb)

theorem lines_close_crlf {bd : Bytes} (hb : BdOk bd) (e : Bytes) :
    bodyLines [] (dashes ++ bd ++ dashes ++ CRLF ++ e) = (dashes ++ bd ++ dashes) :: bodyLines [] e := by
  rw [bodyLines_append, lines_close hb]
  rfl

/-! ## cutting -/

theorem cutGo_others (bd : Bytes) (ls rest cur : List Bytes) (started : Bool) (acc : List Bytes)
    (h : ∀ l ∈ ls, classify bd l = .other) :
    cutGo bd (ls ++ rest) cur started acc = cutGo bd rest (ls.reverse ++ cur) started acc := by
  induction ls generalizing cur with
  | nil => simp
  | cons l ls ih =>
    have hl := h l (by simp)
    rw [List.cons_append, cutGo]
    simp only [hl]
    rw [ih _ (fun x hx => h x (by simp [hx]))]
    simp

/-- a formatted entity without its final CRLF (which, inside a multipart, belongs to the next delimiter) -/
def core : Tree → Bytes
  | .leaf h b => h ++ CRLF ++ b
  | .multi h bd ps => h ++ CRLF ++ formatParts bd ps ++ dashes ++ bd ++ dashes

theorem format_core (t : Tree) : format t = core t ++ CRLF := by
  cases t <;> simp [format, core, List.append_assoc]

theorem formatParts_append (bd : Bytes) (ps qs : List Tree) :
    formatParts bd (ps ++ qs) = formatParts bd ps ++ formatParts bd qs := by
  induction ps with
  | nil => rfl
  | cons p ps ih => simp only [List.cons_append, formatParts, ih, List.append_assoc]

/-- the lines of a multipart's body before the closing delimiter: per part, the delimiter line and the lines of its `core` -/
def linesOf (bd : Bytes) (ps : List Tree) : List Bytes :=
  ps.flatMap fun p => (dashes ++ bd) :: bodyLines [] (core p)

theorem linesOf_cons (bd : Bytes) (p : Tree) (ps : List Tree) :
    linesOf bd (p :: ps) = (dashes ++ bd) :: (bodyLines [] (core p) ++ linesOf bd ps) := rfl

theorem lines_formatParts (bd : Bytes) (hb : BdOk bd) (ps : List Tree) (x : Bytes) :
    bodyLines [] (formatParts bd ps ++ x) = linesOf bd ps ++ bodyLines [] x := by
  induction ps with
  | nil => rfl
  | cons p ps ih =>
    -- the text is `--bd` CRLF `core p` CRLF and then the other parts and `x`
    rw [formatParts, format_core, List.append_assoc, List.append_assoc, bodyLines_append, bodyLines_append, ih,
      bodyLines_noCR _ _ (noCR_delim hb), linesOf_cons]
    simp

/-- no line of the entity could be taken for a delimiter of the enclosing multipart -/
def BoundaryFree (bd : Bytes) (p : Tree) : Prop := ∀ l ∈ bodyLines [] (core p), classify bd l = .other

/-- From any state of the cutter: the lines pending in `cur` become a part if a delimiter came before them (they are
    preamble otherwise), and the lines `tl` after the closing delimiter are not looked at. -/
theorem cut_lines (bd : Bytes) (hb : BdOk bd) (tl : List Bytes) (ps : List Tree)
    (hq : ∀ q ∈ ps, BoundaryFree bd q) (cur : List Bytes) (started : Bool) (acc : List Bytes) :
    cutGo bd (linesOf bd ps ++ (dashes ++ bd ++ dashes) :: tl) cur started acc =
      ((if started then joinCrlf cur.reverse :: acc else acc).reverse ++ ps.map core, true) := by
  induction ps generalizing cur started acc with
  | nil => rw [linesOf, List.flatMap_nil, List.nil_append, cutGo, classify_close]; simp
  | cons p ps ih =>
    rw [linesOf_cons, List.cons_append, List.append_assoc, cutGo, classify_delim bd hb]
    simp only
    rw [cutGo_others bd _ _ _ _ _ (hq p (by simp)), ih (fun q hq' => hq q (by simp [hq']))]
    simp [joinCrlf_bodyLines]

/-! ## trees with their header fields spelled out -/

/-- the model's `Tree` holds each header block as formatted octets, the reader's `Skel` returns it as fields: a tree
    annotated with the fields maps to both (`erase`, `skel`), and the theorems are about such trees -/
inductive ATree
  | leaf (fields : List (Bytes × Bytes)) (body : Bytes)
  | multi (fields : List (Bytes × Bytes)) (bd : Bytes) (parts : List ATree)

mutual
  /-- the model's tree: every list of fields formatted as a header block -/
  def erase : ATree → Tree
    | .leaf fs b => .leaf (formatFields fs) b
    | .multi fs bd ps => .multi (formatFields fs) bd (eraseL ps)
  def eraseL : List ATree → List Tree
    | [] => []
    | p :: ps => erase p :: eraseL ps
end

mutual
  /-- what a reader is expected to recover: the fields of every entity, the content of every leaf -/
  def skel : ATree → Skel
    | .leaf fs b => .leaf fs b
    | .multi fs _ ps => .multi fs (skelL ps)
  def skelL : List ATree → List Skel
    | [] => []
    | p :: ps => skel p :: skelL ps
end

mutual
  def depth : ATree → Nat
    | .leaf _ _ => 0
    | .multi _ _ ps => depthL ps + 1
  def depthL : List ATree → Nat
    | [] => 0
    | p :: ps => max (depth p) (depthL ps)
end

def FieldsOk (fs : List (Bytes × Bytes)) : Prop := ∀ f ∈ fs, FName f.1 ∧ scan .norm f.2 = some .norm

mutual
  /-- the header fields are well formed, a multipart's Content-Type names its boundary (and only a multipart's does),
      the boundary is one a reader can find, no line of a part could be taken for a delimiter of its parent -/
  def WF : ATree → Prop
    | .leaf fs _ => FieldsOk fs ∧ (contentTypeOf fs).bind boundaryOf = none
    | .multi fs bd ps => FieldsOk fs ∧ (contentTypeOf fs).bind boundaryOf = some bd ∧ BdOk bd ∧ WFL bd ps
  def WFL (bd : Bytes) : List ATree → Prop
    | [] => True
    | p :: ps => (WF p ∧ BoundaryFree bd (erase p)) ∧ WFL bd ps
end

theorem wfl_boundaryFree (bd : Bytes) (ps : List ATree) (h : WFL bd ps) : ∀ q ∈ eraseL ps, BoundaryFree bd q := by
  induction ps with
  | nil => exact List.forall_mem_nil _
  | cons p ps ih => exact List.forall_mem_cons.mpr ⟨h.1.2, ih h.2⟩

/-! ## the reader on one entity, given what the header reader and the cutter find -/

theorem parseEntity_leaf (fuel : Nat) (s body : Bytes) (fs : List (Bytes × Bytes)) (hs : split s = some (fs, body))
    (hct : (contentTypeOf fs).bind boundaryOf = none) : parseEntity (fuel + 1) s = some (.leaf fs body) := by
  simp only [parseEntity, hs, hct]

theorem parseEntity_multi (fuel : Nat) (s body bd : Bytes) (fs : List (Bytes × Bytes)) (parts : List Bytes)
    (hs : split s = some (fs, body)) (hct : (contentTypeOf fs).bind boundaryOf = some bd)
    (hcut : cutGo bd (bodyLines [] body) [] false [] = (parts, true)) :
    parseEntity (fuel + 1) s = (parts.mapM (parseEntity fuel)).map (Skel.multi fs) := by
  simp only [parseEntity, hs, hct, hcut]
  rfl

/-- `x` is the closing delimiter with all that comes after it: nothing (`parse_tree`), or CRLF and an epilogue
    (`parse_multi_epilogue`). -/
theorem parse_multi (fuel : Nat) (fs : List (Bytes × Bytes)) (bd : Bytes) (ps : List ATree) (hw : WF (.multi fs bd ps))
    (hparts : ((eraseL ps).map core).mapM (parseEntity fuel) = some (skelL ps))
    (x : Bytes) (tl : List Bytes) (hx : bodyLines [] x = (dashes ++ bd ++ dashes) :: tl) :
    parseEntity (fuel + 1) (formatFields fs ++ CRLF ++ (formatParts bd (eraseL ps) ++ x)) =
      some (skel (.multi fs bd ps)) := by
  obtain ⟨hf, hct, hb, hps⟩ := hw
  show parseEntity (fuel + 1) (formatFields fs ++ [13, 10] ++ _) = _
  rw [parseEntity_multi fuel _ _ bd fs ((eraseL ps).map core) (split_formatFields fs _ hf) hct
    (by rw [lines_formatParts bd hb, hx]; exact cut_lines bd hb tl _ (wfl_boundaryFree bd ps hps) [] false []),
    hparts]
  rfl

mutual
  theorem parse_tree : ∀ (a : ATree) (fuel : Nat), depth a < fuel → WF a →
      parseEntity fuel (core (erase a)) = some (skel a)
    | _, 0, hd, _ => absurd hd (Nat.not_lt_zero _)
    | .leaf fs b, fuel + 1, _, hw => parseEntity_leaf fuel _ b fs (split_formatFields fs b hw.1) hw.2
    | .multi fs bd ps, fuel + 1, hd, hw => by
      have := parse_multi fuel fs bd ps hw (parse_trees bd ps fuel (Nat.lt_of_succ_lt_succ hd) hw.2.2.2) _ []
        (lines_close hw.2.2.1)
      simpa only [erase, core, List.append_assoc] using this
  theorem parse_trees (bd : Bytes) : ∀ (ps : List ATree) (fuel : Nat), depthL ps < fuel → WFL bd ps →
      ((eraseL ps).map core).mapM (parseEntity fuel) = some (skelL ps)
    | [], _, _, _ => rfl
    | p :: ps, fuel, hd, hw => by
      have hd' : depth p < fuel ∧ depthL ps < fuel := by simpa only [depthL, Nat.max_lt] using hd
      simp only [eraseL, skelL, List.map_cons, List.mapM_cons, parse_tree p fuel hd'.1 hw.1.1,
        parse_trees bd ps fuel hd'.2 hw.2]
      rfl
end

theorem parse_multi_epilogue (fs : List (Bytes × Bytes)) (bd : Bytes) (ps : List ATree) (hw : WF (.multi fs bd ps))
    (fuel : Nat) (hd : depth (.multi fs bd ps) < fuel) (e : Bytes) :
    parseEntity fuel (core (erase (.multi fs bd ps)) ++ CRLF ++ e) = some (skel (.multi fs bd ps)) := by
  cases fuel with
  | zero => exact absurd hd (Nat.not_lt_zero _)
  | succ fuel =>
    have := parse_multi fuel fs bd ps hw (parse_trees bd ps fuel (Nat.lt_of_succ_lt_succ hd) hw.2.2.2) _ _
      (lines_close_crlf hw.2.2.1 e)
    simpa only [erase, core, List.append_assoc] using this

/-! ## the hypotheses as a check the driver evaluates on the real header blocks and boundaries -/

def fnameB (n : Bytes) : Bool := !n.isEmpty && n.all (fun b => 33 ≤ b.toNat && b.toNat ≤ 126 && b.toNat != 58)

theorem fnameB_sound (n : Bytes) (h : fnameB n = true) : FName n := by
  simp only [fnameB, Bool.and_eq_true, Bool.not_eq_true', List.isEmpty_eq_false_iff, List.all_eq_true,
    decide_eq_true_eq, bne_iff_ne, ne_eq] at h
  exact ⟨h.1, fun b hb => ⟨(h.2 b hb).1.1, (h.2 b hb).1.2, (h.2 b hb).2⟩⟩

def fieldsOkB (fs : List (Bytes × Bytes)) : Bool := fs.all fun f => fnameB f.1 && decide (scan .norm f.2 = some .norm)

theorem fieldsOkB_sound (fs : List (Bytes × Bytes)) (h : fieldsOkB fs = true) : FieldsOk fs := by
  intro f hf
  have := (List.all_eq_true.mp h) f hf
  simp only [Bool.and_eq_true, decide_eq_true_eq] at this
  exact ⟨fnameB_sound _ this.1, this.2⟩

def bdOkB (bd : Bytes) : Bool :=
  bd.all (· != 13) && (match bd.getLast? with | some x => x != 32 && x != 9 | none => true)

theorem bdOkB_sound (bd : Bytes) (h : bdOkB bd = true) : BdOk bd := by
  simp only [bdOkB, Bool.and_eq_true, List.all_eq_true, bne_iff_ne, ne_eq] at h
  refine ⟨h.1, fun x hx => ?_⟩
  simpa [hx] using h.2

def boundaryFreeB (bd : Bytes) (t : Tree) : Bool := (bodyLines [] (core t)).all fun l => decide (classify bd l = .other)

theorem boundaryFreeB_sound (bd : Bytes) (t : Tree) (h : boundaryFreeB bd t = true) : BoundaryFree bd t := by
  intro l hl
  simpa using List.all_eq_true.mp h l hl

mutual
  def wfB : ATree → Bool
    | .leaf fs _ => fieldsOkB fs && decide ((contentTypeOf fs).bind boundaryOf = none)
    | .multi fs bd ps => fieldsOkB fs && decide ((contentTypeOf fs).bind boundaryOf = some bd) && bdOkB bd && wfBL bd ps
  def wfBL (bd : Bytes) : List ATree → Bool
    | [] => true
    | p :: ps => wfB p && boundaryFreeB bd (erase p) && wfBL bd ps
end

mutual
  theorem wfB_sound : ∀ (a : ATree), wfB a = true → WF a
    | .leaf fs b, h => by
      simp only [wfB, Bool.and_eq_true, decide_eq_true_eq] at h
      exact ⟨fieldsOkB_sound fs h.1, h.2⟩
    | .multi fs bd ps, h => by
      simp only [wfB, Bool.and_eq_true, decide_eq_true_eq] at h
      exact ⟨fieldsOkB_sound fs h.1.1.1, h.1.1.2, bdOkB_sound bd h.1.2, wfBL_sound bd ps h.2⟩
  theorem wfBL_sound (bd : Bytes) : ∀ (ps : List ATree), wfBL bd ps = true → WFL bd ps
    | [], _ => trivial
    | p :: ps, h => by
      simp only [wfBL, Bool.and_eq_true] at h
      exact ⟨⟨wfB_sound p h.1.1, boundaryFreeB_sound bd _ h.1.2⟩, wfBL_sound bd ps h.2⟩
end

/-- the fields of a header block, if the block is exactly those fields written one per line -/
def fieldsOfBlock (h : Bytes) : Option (List (Bytes × Bytes)) :=
  match split (h ++ CRLF) with
  | some (fs, []) => if formatFields fs = h then some fs else none
  | _ => none

mutual
  /-- spell out the header fields of a model tree -/
  def annot : Tree → Option ATree
    | .leaf h b => match fieldsOfBlock h with
      | some fs => some (.leaf fs b)
      | none => none
    | .multi h bd ps => match fieldsOfBlock h, annotL ps with
      | some fs, some as => some (.multi fs bd as)
      | _, _ => none
  def annotL : List Tree → Option (List ATree)
    | [] => some []
    | p :: ps => match annot p, annotL ps with
      | some a, some as => some (a :: as)
      | _, _ => none
end

theorem fieldsOfBlock_eq (h : Bytes) (fs : List (Bytes × Bytes)) (e : fieldsOfBlock h = some fs) : formatFields fs = h := by
  unfold fieldsOfBlock at e
  split at e
  · split at e
    · rename_i hh; cases e; exact hh
    · cases e
  · cases e

mutual
  theorem annot_erase : ∀ (t : Tree) (a : ATree), annot t = some a → erase a = t
    | .leaf h b, a, e => by
      simp only [annot] at e
      split at e
      · rename_i fs hf; cases e; simp [erase, fieldsOfBlock_eq h fs hf]
      · cases e
    | .multi h bd ps, a, e => by
      simp only [annot] at e
      split at e
      · rename_i fs as hf ha; cases e; simp [erase, fieldsOfBlock_eq h fs hf, annotL_erase ps as ha]
      · cases e
  theorem annotL_erase : ∀ (ts : List Tree) (as : List ATree), annotL ts = some as → eraseL as = ts
    | [], as, e => by simp only [annotL] at e; cases e; rfl
    | p :: ps, as, e => by
      simp only [annotL] at e
      split at e
      · rename_i a as' ha has; cases e; simp [eraseL, annot_erase p a ha, annotL_erase ps as' has]
      · cases e
end

end LV.MimeProof
