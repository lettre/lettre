import LettreVerif.Proofs.Bytes
import LettreVerif.Model.Headers
/-!
# The header store (`Model/Headers.lean`): names stay unique, a lookup finds what was inserted

Names are compared up to ASCII case (`eqName`, an equivalence). The facts about `find`, `Unique` and `replaceFirst` at the end
are what `Proofs/Dkim.lean` needs of the store.
-/
namespace LV.Headers
open LV

theorem eqName_refl (a : Bytes) : eqName a a = true := beq_self_eq_true _

theorem eqName_symm (a b : Bytes) : eqName a b = eqName b a := BEq.comm

theorem eqName_congr {a b : Bytes} (h : eqName a b = true) (c : Bytes) : eqName a c = eqName b c := by
  rw [eqName, eqName, beq_iff_eq.mp h]

theorem eqName_trans (a b c : Bytes) (h1 : eqName a b = true) (h2 : eqName b c = true) : eqName a c = true :=
  (eqName_congr h1 c).trans h2

theorem mem_replaceFirst (v : HV) (hs : List HV) : ∀ g ∈ replaceFirst v hs, g ∈ hs ∨ g = v := by
  induction hs with
  | nil => exact fun g hg => nomatch hg
  | cons h hs ih =>
    intro g hg
    rw [replaceFirst] at hg
    split at hg
    · exact (List.mem_cons.mp hg).symm.imp (List.mem_cons_of_mem _) id
    · rcases List.mem_cons.mp hg with rfl | hg
      · exact .inl List.mem_cons_self
      · exact (ih g hg).imp (List.mem_cons_of_mem _) id

theorem replaceFirst_unique (v : HV) (hs : List HV) (hu : Unique hs) : Unique (replaceFirst v hs) := by
  induction hs with
  | nil => trivial
  | cons h hs ih =>
    obtain ⟨h1, h2⟩ := hu
    rw [replaceFirst]
    split
    · rename_i he
      exact ⟨fun g hg => (eqName_congr he g.name).trans (h1 g hg), h2⟩
    · rename_i hne
      refine ⟨fun g hg => ?_, ih h2⟩
      rcases mem_replaceFirst v hs g hg with hg' | rfl
      · exact h1 g hg'
      · rw [eqName_symm]; exact Bool.eq_false_iff.mpr hne

theorem unique_snoc (hs : List HV) (v : HV) (hu : Unique hs) (hv : ∀ h ∈ hs, eqName v.name h.name = false) :
    Unique (hs ++ [v]) := by
  induction hs with
  | nil => exact ⟨nofun, trivial⟩
  | cons h hs ih =>
    obtain ⟨hh, hhs⟩ := List.forall_mem_cons.mp hv
    refine ⟨fun g hg => ?_, ih hu.2 hhs⟩
    rcases List.mem_append.mp hg with hg | hg
    · exact hu.1 g hg
    · rw [List.mem_singleton.mp hg, eqName_symm]; exact hh

theorem insertRaw_unique (hs : List HV) (v : HV) (hu : Unique hs) : Unique (insertRaw hs v) := by
  rw [insertRaw]
  split
  · exact replaceFirst_unique v hs hu
  · rename_i hnone
    exact unique_snoc hs v hu fun h hh => Bool.eq_false_iff.mpr fun e => hnone (List.any_eq_true.mpr ⟨h, hh, e⟩)

theorem removeRaw_sub (n : Bytes) (hs : List HV) : ∀ g ∈ removeRaw n hs, g ∈ hs := by
  induction hs with
  | nil => exact fun g hg => hg
  | cons h hs ih =>
    intro g hg
    rw [removeRaw] at hg
    split at hg
    · exact List.mem_cons_of_mem _ hg
    · exact (List.mem_cons.mp hg).elim (fun e => e ▸ List.mem_cons_self) fun hg => List.mem_cons_of_mem _ (ih g hg)

theorem removeRaw_unique (n : Bytes) (hs : List HV) (hu : Unique hs) : Unique (removeRaw n hs) := by
  induction hs with
  | nil => trivial
  | cons h hs ih =>
    obtain ⟨h1, h2⟩ := hu
    rw [removeRaw]
    split
    · exact h2
    · exact ⟨fun g hg => h1 g (removeRaw_sub n hs g hg), ih h2⟩

/-- `remove_raw` takes out the first entry of that name only; that none is left rests on uniqueness -/
theorem removeRaw_gone (n : Bytes) (hs : List HV) (hu : Unique hs) : find (removeRaw n hs) n = none := by
  induction hs with
  | nil => rfl
  | cons h hs ih =>
    obtain ⟨h1, h2⟩ := hu
    rw [removeRaw]
    split
    · -- every other entry differs from `h`, which is named `n`
      rename_i he
      exact List.find?_eq_none.mpr fun g hg => Bool.not_eq_true _ ▸ (eqName_congr he g.name).trans (h1 g hg)
    · rename_i hne
      exact (List.find?_cons_of_neg (p := fun g : HV => eqName n g.name) hne).trans (ih h2)

/-- `v` stands where a lookup of its name stops first, whether it replaced an entry or was appended: uniqueness of the
    names plays no part -/
theorem find_insertRaw (hs : List HV) (v : HV) (n : Bytes) (hn : eqName n v.name = true) :
    find (insertRaw hs v) n = some v := by
  simp only [find, insertRaw, eqName_congr hn]
  induction hs with
  | nil => simp [eqName_refl]
  | cons h hs ih =>
    cases hh : eqName v.name h.name with
    | true => simp [replaceFirst, hh, eqName_refl]
    | false =>
      -- both branches keep `h`, and the lookup passes over it
      rw [apply_ite (List.find? _)] at ih ⊢
      simp only [List.any_cons, replaceFirst, List.cons_append, List.find?_cons, hh, Bool.false_or, Bool.false_eq_true,
        if_false]
      exact ih

theorem unique_eq (mail : List HV) (hu : Unique mail) (h g : HV) (hh : h ∈ mail) (hg : g ∈ mail)
    (he : eqName h.name g.name = true) : h = g := by
  induction mail with
  | nil => cases hh
  | cons a l ih =>
    obtain ⟨h1, h2⟩ := hu
    rcases List.mem_cons.mp hh with rfl | hh' <;> rcases List.mem_cons.mp hg with rfl | hg'
    · rfl
    · rw [h1 g hg'] at he; cases he
    · rw [eqName_symm, h1 h hh'] at he; cases he
    · exact ih h2 hh' hg'

theorem find_some {mail : List HV} {n : Bytes} {h : HV} (hf : find mail n = some h) : h ∈ mail ∧ eqName n h.name = true := by
  unfold find at hf
  exact ⟨List.mem_of_find?_eq_some hf, List.find?_some (p := fun h : HV => eqName n h.name) hf⟩

theorem find_none {mail : List HV} {n : Bytes} (hf : find mail n = none) : ∀ h ∈ mail, eqName n h.name = false := by
  unfold find at hf
  exact fun h hh => by simpa using List.find?_eq_none.mp hf h hh

theorem replaceFirst_same (e : HV) (cov : List HV) (h : ∀ e' ∈ cov, eqName e.name e'.name = true → e' = e) :
    replaceFirst e cov = cov := by
  induction cov with
  | nil => rfl
  | cons a l ih =>
    obtain ⟨ha, hl⟩ := List.forall_mem_cons.mp h
    rw [replaceFirst]
    split
    · rename_i he; rw [ha he]
    · rw [ih hl]

theorem mem_insertRaw (l : List HV) (v x : HV) (h : x ∈ insertRaw l v) : x ∈ l ∨ x = v := by
  unfold insertRaw at h
  split at h
  · exact mem_replaceFirst v l x h
  · simpa using h

end LV.Headers
