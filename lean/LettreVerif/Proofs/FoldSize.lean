import LettreVerif.Proofs.HeaderEnc
/-!
# Size of what the folding writer produces: at most three times its input

`size w` = octets written plus spaces pending. A token costs its own length plus at most one fold (CRLF, two octets);
a space costs one.
-/
namespace LV.HeaderEnc
open LV

def W.size (w : W) : Nat := w.bytes.length + w.spaces

theorem size_eq_out (w : W) : w.size = w.out.length := by
  rw [W.out, List.length_append, List.length_replicate]
  rfl

theorem size_writeStr (w : W) (s : Bytes) : (w.writeStr s).size = w.size + s.length := by
  rw [size_eq_out, out_writeStr, List.length_append, size_eq_out]

theorem size_newLine (w : W) : w.newLine.size = w.size + 2 := by
  rw [W.size, bytes_newLine, List.length_append, Nat.add_right_comm]
  rfl

/-- a token costs its own length plus at most one fold (CRLF, two octets): three times its length, as it is not empty -/
theorem size_emitTok (w : W) {t : Bytes} (ht : t ≠ []) : (w.emitTok t).size ≤ w.size + 3 * t.length := by
  have h3 : t.length + 2 ≤ 3 * t.length := by have := List.length_pos_iff.mpr ht; omega
  refine Nat.le_trans ?_ (Nat.add_le_add_left h3 _)
  unfold W.emitTok
  simp only
  split
  · rw [size_writeStr, size_newLine, Nat.add_right_comm]; exact Nat.le_refl _
  · rw [size_writeStr]; exact Nat.add_le_add_left (Nat.le_add_right _ 2) _

theorem size_space (w : W) : w.space.size = w.size + 1 := rfl

/-- `C19.folding_writer_linear` -/
theorem size_foldWrite (w : W) (s : Bytes) : (foldWrite w s).size ≤ w.size + 3 * s.length :=
  foldWrite_induct (P := fun w' x => w'.size ≤ w.size + 3 * x.length)
    (fun {w' x} ih => by
      rw [size_space, List.length_append, Nat.mul_add, ← Nat.add_assoc]
      exact Nat.add_le_add ih (by decide))
    (fun {w' x} t ht ih => by
      rw [List.length_append, Nat.mul_add, ← Nat.add_assoc]
      exact Nat.le_trans (size_emitTok w' ht) (Nat.add_le_add_right ih _))
    s (Nat.le_refl _)

theorem flush_length (w : W) : w.flushSpaces.bytes.length = w.size := by
  rw [out_flush, size_eq_out]

/-- `C19.content_type_linear` -/
theorem contentTypeValue_linear (raw : Bytes) (h : raw.all (allowedChar true) = true) :
    (contentTypeValue raw).length ≤ 3 * raw.length := by
  rw [contentTypeValue, if_pos h, flush_length]
  exact Nat.le_trans (size_foldWrite _ raw) (Nat.le_of_eq (Nat.zero_add _))

end LV.HeaderEnc
