import LettreVerif.Proofs.Bytes
import LettreVerif.Spec.ReplyGrammar
/-!
# The reply parser against the RFC 5321 grammar (C15)

`parse = run bareOk init` is a byte machine (`step`); `bareOk = true` is the repaired parser, which also accepts a last line
without text (`250` CR LF).  `run` is followed through one rendered line, one equation per shape of line, so that a rendered
reply parses back; conversely an accepted line has one of these shapes (`line_inv`), so that whatever is accepted is a
rendered reply.  A lemma takes the switch as a variable `bo` where it holds for both values and is stated for `run true`
where the bare last line comes in.
-/
namespace LV.C15
open LV LV.Response LV.ReplyGrammar

theorem classify_positive (c : Code) : classify c = .positive ↔ c.1 = 2 ∨ c.1 = 3 := by
  unfold classify
  split <;> rename_i h
  · exact iff_of_true rfl h
  · split <;> exact iff_of_false nofun h

theorem classify_transient (c : Code) : classify c = .transient ↔ c.1 = 4 := by
  unfold classify
  split <;> rename_i h
  · exact iff_of_false nofun (by omega)
  · split <;> rename_i h4
    · exact iff_of_true rfl h4
    · exact iff_of_false nofun h4

/-! ### streaming -/

/-- `st'` is the state `p` has led to -/
theorem run_append (bo : Bool) (st : PSt) (p : Bytes) : ∃ st', ∀ e, run bo st (p ++ e) =
    match run bo st p with | .ok r rest => .ok r (rest ++ e) | .incomplete => run bo st' e | x => x := by
  induction p generalizing st with
  | nil => exact ⟨st, fun _ => rfl⟩
  | cons b bs ih =>
    simp only [run, List.cons_append]
    cases step bo st b with
    | inl st' => exact ih st'
    | inr o => exact ⟨st, fun _ => by cases o <;> rfl⟩

theorem run_prefix_incomplete (bo : Bool) (st : PSt) (p e : Bytes) (r : Resp) (h : run bo st (p ++ e) = .ok r [])
    (he : e ≠ []) : run bo st p = .incomplete := by
  obtain ⟨st', ha⟩ := run_append bo st p
  rw [ha] at h
  generalize run bo st p = o at h ⊢
  cases o with
  | ok r' rest' => exact absurd (List.append_eq_nil_iff.mp (PR.ok.inj h).2).2 he
  | incomplete => rfl
  | error => cases h
  | failure => cases h

/-! ### running through a rendered line -/

theorem digit_eq_some (lo hi : Nat) (h3 : hi ≤ 9) (b : Byte) (n : Nat) :
    digit lo hi b = some n ↔ b = digitByte n ∧ lo ≤ n ∧ n ≤ hi := by
  unfold digit
  constructor
  · intro h
    split at h
    · rename_i hc
      cases h
      refine ⟨?_, Nat.le_sub_of_add_le' hc.1, Nat.sub_le_iff_le_add'.mpr hc.2⟩
      rw [digitByte, Nat.add_sub_cancel' (Nat.le_trans (Nat.le_add_right 48 lo) hc.1), UInt8.ofNat_toNat]
    · cases h
  · rintro ⟨rfl, h1, h2⟩
    have : (digitByte n).toNat = 48 + n := by
      rw [digitByte, UInt8.toNat_ofNat']
      exact Nat.mod_eq_of_lt (by omega)
    rw [this, if_pos ⟨Nat.add_le_add_left h1 48, Nat.add_le_add_left h2 48⟩, Nat.add_sub_cancel_left]

theorem run_code (bo : Bool) (L : List (Code × Bytes)) (c : Code) (more : Bytes) (hc : codeOk c = true) :
    run bo ⟨L, .d0⟩ (renderCode c ++ more) = run bo ⟨L, .sep c⟩ more := by
  obtain ⟨a, x, y⟩ := c
  simp only [codeOk, Bool.and_eq_true, decide_eq_true_eq] at hc
  simp only [renderCode, List.cons_append, List.nil_append, run, step,
    (digit_eq_some 2 5 (by decide) _ a).mpr ⟨rfl, hc.1.1.1, hc.1.1.2⟩,
    (digit_eq_some 0 5 (by decide) _ x).mpr ⟨rfl, Nat.zero_le _, hc.1.2⟩,
    (digit_eq_some 0 9 (by decide) _ y).mpr ⟨rfl, Nat.zero_le _, hc.2⟩]

theorem noCrlf_cons (x : Byte) (xs : Bytes) :
    noCrlf (x :: xs) = true ↔ ¬(x = 13 ∧ xs.head? = some 10) ∧ noCrlf xs = true := by
  rw [noCrlf, Bool.and_eq_true, Bool.not_eq_true', Bool.and_eq_false_iff, beq_eq_false_iff_ne, beq_eq_false_iff_ne,
    Decidable.not_and_iff_not_or_not]

/-- `text` is `.ctext c` in a continuation line, `.ltext c` in a last line -/
theorem run_text (bo : Bool) (L : List (Code × Bytes)) (text : Bytes → Phase)
    (hstep : ∀ acc b, ¬(b = 10 ∧ acc.head? = some 13) → step bo ⟨L, text acc⟩ b = .inl ⟨L, text (b :: acc)⟩)
    (acc t rest : Bytes) (ht : noCrlf t = true) (hacc : ¬(acc.head? = some 13 ∧ t.head? = some 10)) :
    run bo ⟨L, text acc⟩ (t ++ rest) = run bo ⟨L, text (t.reverse ++ acc)⟩ rest := by
  induction t generalizing acc with
  | nil => rfl
  | cons x xs ih =>
    have hxs := (noCrlf_cons x xs).mp ht
    rw [List.cons_append, run, hstep acc x (fun hh => hacc ⟨hh.2, by rw [hh.1]; rfl⟩)]
    simpa using ih (x :: acc) hxs.2 (by simpa using hxs.1)

theorem finish_ok_iff (L : List (Code × Bytes)) (c : Code) (t : Bytes) (r : Resp) :
    finish L c t = .ok r ↔ (∀ l ∈ L, l.1 = c) ∧ r = ⟨c, L.reverse.map (·.2) ++ [t]⟩ := by
  have hall : (L.all fun l => l.1 == c) = true ↔ ∀ l ∈ L, l.1 = c := by simp only [List.all_eq_true, beq_iff_eq]
  unfold finish
  by_cases h : ∀ l ∈ L, l.1 = c
  · rw [if_pos (hall.mpr h)]
    exact ⟨fun e => ⟨h, (Outcome.ok.inj e).symm⟩, fun e => by rw [e.2]⟩
  · rw [if_neg (mt hall.mp h)]
    exact iff_of_false nofun fun e => h e.1

theorem ctext_step (bo : Bool) (L : List (Code × Bytes)) (c : Code) (acc : Bytes) (b : Byte)
    (h : ¬(b = 10 ∧ acc.head? = some 13)) : step bo ⟨L, .ctext c acc⟩ b = .inl ⟨L, .ctext c (b :: acc)⟩ := by
  simp only [step, if_neg h]

theorem ltext_step (bo : Bool) (L : List (Code × Bytes)) (c : Code) (acc : Bytes) (b : Byte)
    (h : ¬(b = 10 ∧ acc.head? = some 13)) : step bo ⟨L, .ltext c acc⟩ b = .inl ⟨L, .ltext c (b :: acc)⟩ := by
  simp only [step, if_neg h]

theorem run_cont (L : List (Code × Bytes)) (c : Code) (t more : Bytes) (hc : codeOk c = true) (ht : noCrlf t = true) :
    run true ⟨L, .d0⟩ (renderCode c ++ [45] ++ t ++ CRLF ++ more) = run true ⟨(c, t) :: L, .d0⟩ more := by
  simp only [CRLF, List.append_assoc, List.cons_append, List.nil_append]
  rw [run_code true L c _ hc, run]
  simp only [step, if_pos]
  rw [run_text true L (.ctext c) (ctext_step true L c) [] t _ ht nofun]
  simp [run, step]

theorem run_last (L : List (Code × Bytes)) (c : Code) (t more : Bytes) (hc : codeOk c = true) (ht : noCrlf t = true) :
    run true ⟨L, .d0⟩ (renderCode c ++ [32] ++ t ++ CRLF ++ more) =
      match finish L c t with | .ok r => .ok r more | .error => .error | .failure => .failure := by
  simp only [CRLF, List.append_assoc, List.cons_append, List.nil_append]
  rw [run_code true L c _ hc, run]
  simp only [step, if_neg (show ¬(32 : Byte) = 45 by decide), if_pos]
  rw [run_text true L (.ltext c) (ltext_step true L c) [] t _ ht nofun, run,
    ltext_step true L c _ 13 (fun hh => absurd hh.1 (by decide))]
  simp only [run, step, List.head?_cons, and_self, if_pos, List.tail_cons, List.append_nil, List.reverse_reverse]
  cases finish L c t <;> rfl

theorem run_bare (L : List (Code × Bytes)) (c : Code) (more : Bytes) (hc : codeOk c = true) :
    run true ⟨L, .d0⟩ (renderCode c ++ CRLF ++ more) =
      match finish L c [] with | .ok r => .ok r more | .error => .error | .failure => .failure := by
  simp only [CRLF, List.append_assoc, List.cons_append, List.nil_append]
  rw [run_code true L c _ hc]
  simp only [run, step, Bool.true_and, decide_true, if_pos, if_neg (show ¬(13 : Byte) = 45 by decide),
    if_neg (show ¬(13 : Byte) = 32 by decide)]
  cases finish L c [] <;> rfl

theorem renderLines_cons (c : Code) (t : Bytes) (us : List Bytes) (h : us ≠ []) :
    renderLines c (t :: us) = renderCode c ++ [45] ++ t ++ CRLF ++ renderLines c us := by
  cases us with
  | nil => exact absurd rfl h
  | cons u us => rfl

theorem renderLinesBare_cons (c : Code) (t : Bytes) (us : List Bytes) (h : us ≠ []) :
    renderLinesBare c (t :: us) = renderCode c ++ [45] ++ t ++ CRLF ++ renderLinesBare c us := by
  cases us with
  | nil => exact absurd rfl h
  | cons u us => rfl

theorem run_lines (c : Code) (hc : codeOk c = true) (ts : List Bytes) (hne : ts ≠ [])
    (hts : ts.all noCrlf = true) (L : List (Code × Bytes)) (hL : ∀ l ∈ L, l.1 = c) (rest : Bytes) :
    run true ⟨L, .d0⟩ (renderLines c ts ++ rest) = .ok ⟨c, L.reverse.map (·.2) ++ ts⟩ rest ∧
    run true ⟨L, .d0⟩ (renderLinesBare c ts ++ rest) = .ok ⟨c, L.reverse.map (·.2) ++ ts⟩ rest := by
  induction ts generalizing L with
  | nil => exact absurd rfl hne
  | cons t ts ih =>
    simp only [List.all_cons, Bool.and_eq_true] at hts
    cases ts with
    | nil =>
      have hlast : run true ⟨L, .d0⟩ (renderCode c ++ [32] ++ t ++ CRLF ++ rest) = .ok ⟨c, L.reverse.map (·.2) ++ [t]⟩ rest := by
        rw [run_last L c t rest hc hts.1, (finish_ok_iff L c t _).mpr ⟨hL, rfl⟩]
      refine ⟨hlast, ?_⟩
      cases t with
      | nil => exact (run_bare L c rest hc).trans (by rw [(finish_ok_iff L c [] _).mpr ⟨hL, rfl⟩])
      | cons x xs => exact hlast
    | cons t2 ts2 =>
      have := ih (by simp) hts.2 ((c, t) :: L) (List.forall_mem_cons.mpr ⟨rfl, hL⟩)
      simp only [List.reverse_cons, List.map_append, List.map_cons, List.map_nil, List.append_assoc,
        List.cons_append, List.nil_append] at this
      constructor
      · rw [renderLines_cons c t _ (by simp), List.append_assoc, run_cont L c t _ hc hts.1]
        exact this.1
      · rw [renderLinesBare_cons c t _ (by simp), List.append_assoc, run_cont L c t _ hc hts.1]
        exact this.2

/-! ### soundness -/

theorem first_crlf (s : Bytes) : noCrlf s = true ∨ ∃ t rest, s = t ++ CRLF ++ rest ∧ noCrlf t = true := by
  induction s with
  | nil => exact .inl rfl
  | cons x xs ih =>
    by_cases hx : x = 13 ∧ xs.head? = some 10
    · obtain ⟨rfl, h10⟩ := hx
      cases xs with
      | nil => cases h10
      | cons y ys => cases h10; exact .inr ⟨[], ys, rfl, rfl⟩
    · rcases ih with h | ⟨t, rest, rfl, ht⟩
      · exact .inl ((noCrlf_cons x xs).mpr ⟨hx, h⟩)
      · refine .inr ⟨x :: t, rest, rfl, (noCrlf_cons x t).mpr ⟨fun hh => hx ⟨hh.1, ?_⟩, ht⟩⟩
        cases t with
        | nil => cases hh.2
        | cons y ys => exact hh.2

theorem run_text_inv (bo : Bool) (L : List (Code × Bytes)) (text : Bytes → Phase)
    (hstep : ∀ acc b, ¬(b = 10 ∧ acc.head? = some 13) → step bo ⟨L, text acc⟩ b = .inl ⟨L, text (b :: acc)⟩)
    (s : Bytes) (r : Resp) (rest : Bytes) (h : run bo ⟨L, text []⟩ s = .ok r rest) :
    ∃ t more, noCrlf t = true ∧ s = t ++ CRLF ++ more := by
  rcases first_crlf s with hnc | ⟨t, more, rfl, ht⟩
  · rw [← List.append_nil s, run_text bo L text hstep [] s [] hnc nofun] at h
    cases h
  · exact ⟨t, more, ht, rfl⟩

theorem run_digit_inv (bo : Bool) (L : List (Code × Bytes)) (ph : Phase) (lo hi : Nat) (f : Nat → Phase) (h3 : hi ≤ 9)
    (hstep : ∀ b, step bo ⟨L, ph⟩ b = match digit lo hi b with | some a => .inl ⟨L, f a⟩ | none => .inr .error)
    (s : Bytes) (r : Resp) (rest : Bytes) (h : run bo ⟨L, ph⟩ s = .ok r rest) :
    ∃ a s', s = digitByte a :: s' ∧ lo ≤ a ∧ a ≤ hi ∧ run bo ⟨L, f a⟩ s' = .ok r rest := by
  cases s with
  | nil => cases h
  | cons b s' =>
    rw [run, hstep] at h
    cases hd : digit lo hi b with
    | none => rw [hd] at h; cases h
    | some a =>
      rw [hd] at h
      obtain ⟨rfl, h1, h2⟩ := (digit_eq_some lo hi h3 b a).mp hd
      exact ⟨a, s', rfl, h1, h2, h⟩

theorem run_code_inv (bo : Bool) (L : List (Code × Bytes)) (s : Bytes) (r : Resp) (rest : Bytes)
    (h : run bo ⟨L, .d0⟩ s = .ok r rest) :
    ∃ c s1, codeOk c = true ∧ s = renderCode c ++ s1 ∧ run bo ⟨L, .sep c⟩ s1 = .ok r rest := by
  obtain ⟨a, s', rfl, a1, a2, h⟩ := run_digit_inv bo L .d0 2 5 .d1 (by decide) (fun _ => rfl) s r rest h
  obtain ⟨x, s', rfl, _, x2, h⟩ := run_digit_inv bo L (.d1 a) 0 5 (.d2 a) (by decide) (fun _ => rfl) _ r rest h
  obtain ⟨y, s', rfl, _, y2, h⟩ :=
    run_digit_inv bo L (.d2 a x) 0 9 (fun y => .sep (a, x, y)) (by decide) (fun _ => rfl) _ r rest h
  exact ⟨(a, x, y), s', by simp [codeOk, a1, a2, x2, y2], rfl, h⟩

theorem line_inv (L : List (Code × Bytes)) (s : Bytes) (r : Resp) (rest : Bytes) (h : run true ⟨L, .d0⟩ s = .ok r rest) :
    ∃ c, codeOk c = true ∧
      ((∃ t more, noCrlf t = true ∧ s = renderCode c ++ [45] ++ t ++ CRLF ++ more) ∨
       (∃ t more, noCrlf t = true ∧ s = renderCode c ++ [32] ++ t ++ CRLF ++ more) ∨
       ∃ more, s = renderCode c ++ CRLF ++ more) := by
  replace h := run_code_inv true L s r rest h
  obtain ⟨c, s1, hc, rfl, h⟩ := h
  refine ⟨c, hc, ?_⟩
  cases s1 with
  | nil => cases h
  | cons b s2 =>
    rw [run] at h
    simp only [step] at h
    by_cases h45 : b = 45
    · subst h45
      rw [if_pos rfl] at h
      obtain ⟨t, more, ht, rfl⟩ := run_text_inv true L (.ctext c) (ctext_step true L c) s2 r rest h
      exact .inl ⟨t, more, ht, by simp⟩
    rw [if_neg h45] at h
    by_cases h32 : b = 32
    · subst h32
      rw [if_pos rfl] at h
      obtain ⟨t, more, ht, rfl⟩ := run_text_inv true L (.ltext c) (ltext_step true L c) s2 r rest h
      exact .inr (.inl ⟨t, more, ht, by simp⟩)
    rw [if_neg h32] at h
    by_cases h13 : b = 13
    · subst h13
      cases s2 with
      | nil => cases h
      | cons b2 s3 =>
        simp only [Bool.true_and, decide_true, if_pos, run, step] at h
        by_cases h10 : b2 = 10
        · subst h10
          exact .inr (.inr ⟨s3, by simp [CRLF]⟩)
        · rw [if_neg h10] at h; cases h
    · rw [if_neg (by simpa using h13)] at h; cases h

/-- `n` is only the measure of the induction: the lines are taken off `s` one by one -/
theorem sound_lines (n : Nat) (L : List (Code × Bytes)) (s : Bytes) (r : Resp) (rest : Bytes) (hn : s.length ≤ n)
    (h : run true ⟨L, .d0⟩ s = .ok r rest) :
    ∃ ts, ts ≠ [] ∧ ts.all noCrlf = true ∧ codeOk r.code = true ∧ (∀ l ∈ L, l.1 = r.code) ∧
      r.lines = L.reverse.map (·.2) ++ ts ∧
      (s = renderLines r.code ts ++ rest ∨ s = renderLinesBare r.code ts ++ rest) := by
  induction n generalizing L s with
  | zero => rw [List.eq_nil_of_length_eq_zero (Nat.le_zero.mp hn)] at h; cases h
  | succ n ih =>
    obtain ⟨c, hc, ⟨t, more, ht, rfl⟩ | ⟨t, more, ht, rfl⟩ | ⟨more, rfl⟩⟩ := line_inv L s r rest h
    · rw [run_cont L c t more hc ht] at h
      obtain ⟨ts, hne, hall, hco, hL, hlines, hs⟩ :=
        ih ((c, t) :: L) more (by simp only [List.length_append, List.length_cons] at hn; omega) h
      obtain rfl : c = r.code := hL (c, t) List.mem_cons_self
      refine ⟨t :: ts, List.cons_ne_nil _ _, by simp [ht, hall], hco, fun l hl => hL l (List.mem_cons_of_mem _ hl),
        by simp [hlines], ?_⟩
      rw [renderLines_cons _ t ts hne, renderLinesBare_cons _ t ts hne]
      rcases hs with rfl | rfl
      · exact .inl (List.append_assoc ..).symm
      · exact .inr (List.append_assoc ..).symm
    · rw [run_last L c t more hc ht] at h
      cases hf : finish L c t <;> rw [hf] at h <;> cases h
      obtain ⟨hL, rfl⟩ := (finish_ok_iff L c t r).mp hf
      exact ⟨[t], List.cons_ne_nil _ _, by simp [ht], hc, hL, rfl, .inl rfl⟩
    · rw [run_bare L c more hc] at h
      cases hf : finish L c [] <;> rw [hf] at h <;> cases h
      obtain ⟨hL, rfl⟩ := (finish_ok_iff L c [] r).mp hf
      exact ⟨[[]], List.cons_ne_nil _ _, rfl, hc, hL, rfl, .inr rfl⟩

/-! ### `read_response`

`read_line` cuts the stream after every LF and the parser answers `ok` only on an LF, so the reply ends where a line ends. -/

/-- the last conjunct: the line has no LF before its last octet -/
theorem takeLine_spec (a s : Bytes) :
    ∃ l rest, takeLine a s = (a.reverse ++ l, rest) ∧ s = l ++ rest ∧ (s ≠ [] → l ≠ []) ∧
      ∀ p x, l = p ++ 10 :: x → x = [] := by
  induction s generalizing a with
  | nil => exact ⟨[], [], by simp [takeLine], rfl, id, fun p x e => by cases p <;> cases e⟩
  | cons b s ih =>
    rw [takeLine]
    split
    · refine ⟨[b], s, by simp, rfl, fun _ => List.cons_ne_nil _ _, fun p x e => ?_⟩
      cases p with
      | nil => exact (List.cons.inj e).2.symm
      | cons y ys => cases ys <;> cases e
    · rename_i hb
      obtain ⟨l, rest, h1, rfl, -, h4⟩ := ih (b :: a)
      refine ⟨b :: l, rest, by simp [h1], rfl, fun _ => List.cons_ne_nil _ _, fun p x e => ?_⟩
      cases p with
      | nil => exact absurd (List.cons.inj e).1 hb
      | cons y ys => exact h4 ys x (List.cons.inj e).2

theorem step_ok_lf (bo : Bool) (st : PSt) (b : Byte) (r : Resp) (h : step bo st b = .inr (.ok r)) : b = 10 := by
  obtain ⟨L, ph⟩ := st
  cases ph <;> simp only [step] at h
  case d0 | d1 | d2 | ctext => split at h <;> cases h
  case sep =>
    by_cases h45 : b = 45
    · rw [if_pos h45] at h; cases h
    by_cases h32 : b = 32
    · rw [if_neg h45, if_pos h32] at h; cases h
    rw [if_neg h45, if_neg h32] at h
    split at h <;> cases h
  case ltext =>
    split at h
    · rename_i hb; exact hb.1
    · cases h
  case lcr =>
    split at h
    · assumption
    · cases h

theorem run_line_ok (bo : Bool) (st : PSt) (l : Bytes) (hl : ∀ p x, l = p ++ 10 :: x → x = []) (r : Resp) (x : Bytes)
    (h : run bo st l = .ok r x) : x = [] := by
  induction l generalizing st with
  | nil => cases h
  | cons b l ih =>
    rw [run] at h
    cases hs : step bo st b with
    | inl st' =>
      rw [hs] at h
      exact ih st' (fun p x e => hl (b :: p) x (by rw [e]; rfl)) h
    | inr o =>
      rw [hs] at h
      cases o with
      | ok r' =>
        exact hl [] x (by rw [step_ok_lf bo st b r' hs, (PR.ok.inj h).2]; rfl)
      | error => cases h
      | failure => cases h

theorem readResponse_reply_iff (fuel : Nat) (acc stream : Bytes) (r : Resp) (x : Bytes)
    (hacc : run true init acc = .incomplete) (hf : stream.length < fuel) :
    readResponse true fuel acc stream = (.reply r, x) ↔ run true init (acc ++ stream) = .ok r x := by
  induction fuel generalizing acc stream with
  | zero => cases hf
  | succ f ih =>
    simp only [readResponse]
    split
    · rename_i he
      rw [List.isEmpty_iff.mp he, List.append_nil, hacc]
      exact iff_of_false nofun nofun
    · rename_i he
      obtain ⟨line, rest1, htl, rfl, hne, hlf⟩ := takeLine_spec [] stream
      have hlen := List.length_pos_iff.mpr (hne (mt List.isEmpty_iff.mpr he))
      obtain ⟨_, hR⟩ := run_append true init (acc ++ line)
      simp only [htl, List.reverse_nil, List.nil_append, ← List.append_assoc]
      cases hr : run true init (acc ++ line) with
      | incomplete => exact ih (acc ++ line) rest1 hr (by rw [List.length_append] at hf; omega)
      | error => rw [hR, hr]; exact iff_of_false nofun nofun
      | failure => rw [hR, hr]; exact iff_of_false nofun nofun
      | ok r' x' =>
        -- `line` is read from the state `acc` has led to
        obtain ⟨st', ha⟩ := run_append true init acc
        simp only [hacc] at ha
        obtain rfl : x' = [] := run_line_ok true st' line hlf r' x' ((ha line).symm.trans hr)
        rw [hR, hr]
        simp only [List.nil_append, Prod.mk.injEq, RR.reply.injEq, PR.ok.injEq]

/-- `readResp`, `parse` are `readResponse`, `run` at `bareOk`, which is `true` by definition -/
theorem readResp_reply_iff (s : Bytes) (r : Resp) (x : Bytes) : readResp s = (.reply r, x) ↔ parse s = .ok r x :=
  readResponse_reply_iff _ [] s r x rfl (Nat.lt_succ_self _)

theorem incomplete_no_reply (buf : Bytes) (h : parse buf = .incomplete) : (readResp buf).1 = .bad := by
  cases hr : readResp buf with
  | mk rr rest =>
    cases rr with
    | bad => rfl
    | reply r => rw [(readResp_reply_iff buf r rest).mp hr] at h; cases h

end LV.C15
