import LettreVerif.Proofs.Bytes
import LettreVerif.Model.Codec
import LettreVerif.Spec.DataServer
/-!
# C03: dot-stuffing (Model/Codec.lean) against a receiver of the DATA phase (Spec/DataServer.lean)

One simulation: the encoder's three states map to receiver states (`rel`), the receiver undoes one encoder step
(`step_sim`), hence a whole message (`encode_sim`), and the terminator takes it to `done` (`term_sim`).  That the end
marker is not seen early rests on `done` being absorbing and on the receiver's state one octet before the end
(`before_last`).  Framing and the size bound are inductions over the message.
-/
namespace LV.C03
open LV.Codec LV.DataServer

/-- decoder state that corresponds to an encoder state -/
def rel : ESt → DSt
  | .sol => .sol | .cr => .midCr | .mid => .mid

theorem decode_append (s : DSt) (xs ys : Bytes) :
    decode s (xs ++ ys) =
      ((decode (decode s xs).1 ys).1, (decode s xs).2 ++ (decode (decode s xs).1 ys).2) := by
  induction xs generalizing s with
  | nil => simp [decode]
  | cons x xs ih => simp [decode, ih, List.append_assoc]

/-- CR puts both machines at "CR seen" whatever the state; otherwise only LF after CR and a dot at the start of a
    line are treated specially. -/
theorem step_sim (s : ESt) (b : Byte) :
    decode (rel s) (estep s b).2 = (rel (estep s b).1, [b]) := by
  by_cases h13 : b = 13
  · subst h13; cases s <;> rfl
  · cases s
    · simp [estep, rel, decode, dstep, h13]
    · by_cases h10 : b = 10
      · subst h10; rfl
      · simp [estep, rel, decode, dstep, h13, h10]
    · by_cases h46 : b = 46
      · subst h46; rfl
      · simp [estep, rel, decode, dstep, h13, h46]

theorem term_sim (s : ESt) : decode (rel s) terminator = (.done, [13, 10]) := by
  cases s <;> decide

theorem encode_sim (s : ESt) (m : Bytes) :
    decode (rel s) (encode s m) = (rel (stateAfter s m), m) := by
  induction m generalizing s with
  | nil => simp [encode, decode, stateAfter]
  | cons b bs ih =>
    simp only [encode, stateAfter]
    rw [decode_append, step_sim]
    simp [ih]

theorem transparency_gen (s : ESt) (m : Bytes) :
    decode (rel s) (encode s m ++ terminator) = (.done, m ++ [13, 10]) := by
  rw [decode_append, encode_sim, term_sim]

/-! ### the marker is not seen early -/

theorem decode_done (xs : Bytes) : decode .done xs = (.done, []) := by
  induction xs with
  | nil => rfl
  | cons x xs ih => simp [decode, dstep, ih]

theorem not_done_of_prefix (s : DSt) (p xs : Bytes) (hp : p <+: xs) (h : (decode s xs).1 ≠ .done) :
    (decode s p).1 ≠ .done := by
  obtain ⟨q, rfl⟩ := hp
  intro e
  rw [decode_append, e, decode_done] at h
  exact h rfl

theorem terminator_eq : terminator = [13, 10, 46, 13] ++ [10] := rfl

theorem before_last (s : ESt) (m : Bytes) : (decode (rel s) (encode s m ++ [13, 10, 46, 13])).1 = .solDotCr := by
  rw [decode_append, encode_sim]
  cases stateAfter s m <;> rfl

theorem no_early_end_gen (s : ESt) (m p : Bytes) (hp : p <+: encode s m ++ terminator)
    (hne : p ≠ encode s m ++ terminator) : (decode (rel s) p).1 ≠ .done := by
  rw [terminator_eq, ← List.append_assoc] at hp hne
  refine not_done_of_prefix _ p _ ((List.prefix_concat_iff.mp hp).resolve_left hne) ?_
  rw [before_last]; decide

/-- `notDoneBefore` is what the driver's oracle and the acceptor of `Spec/Dialogue.lean` apply to the octets really
    sent. -/
theorem notDoneBefore_concat (s : DSt) (xs : Bytes) (x : Byte) :
    notDoneBefore s (xs ++ [x]) = ((decode s xs).1 != .done) := by
  induction xs generalizing s with
  | nil => simp [notDoneBefore, decode]
  | cons y ys ih =>
    rw [List.cons_append, notDoneBefore, ih, decode]
    by_cases h : s = .done
    · subst h; simp [dstep, decode_done]
    · simp [h]

theorem notDoneBefore_wire (s : ESt) (m : Bytes) : notDoneBefore (rel s) (encode s m ++ terminator) = true := by
  rw [terminator_eq, ← List.append_assoc, notDoneBefore_concat, before_last]; rfl

theorem term_done_any (s : DSt) : (decode s terminator).1 = .done := by
  cases s <;> decide

theorem encode_append (s : ESt) (a b : Bytes) :
    encode s (a ++ b) = encode s a ++ encode (stateAfter s a) b := by
  induction a generalizing s with
  | nil => simp [encode, stateAfter]
  | cons x xs ih => simp [encode, stateAfter, ih, List.append_assoc]

theorem stateAfter_append (s : ESt) (a b : Bytes) :
    stateAfter s (a ++ b) = stateAfter (stateAfter s a) b := by
  induction a generalizing s with
  | nil => simp [stateAfter]
  | cons x xs ih => simp [stateAfter, ih]

theorem frames_flatten (s : ESt) (fs : List Bytes) : encodeFrames s fs = encode s fs.flatten := by
  induction fs generalizing s with
  | nil => simp [encodeFrames, encode]
  | cons f fs ih => simp [encodeFrames, encode_append, ih]

theorem estep_out (s : ESt) (b : Byte) : (estep s b).2 = [b] ∨ (estep s b).2 = [b, 46] := by
  unfold estep
  by_cases h13 : b = 13
  · rw [if_pos h13]; exact .inl rfl
  · rw [if_neg h13]
    cases s
    · exact .inl rfl
    · dsimp only; split <;> exact .inl rfl
    · dsimp only; split
      · exact .inr rfl
      · exact .inl rfl

theorem encode_len (s : ESt) (m : Bytes) :
    m.length ≤ (encode s m).length ∧ (encode s m).length ≤ 2 * m.length := by
  induction m generalizing s with
  | nil => exact ⟨Nat.le_refl 0, Nat.le_refl 0⟩
  | cons b bs ih =>
    obtain ⟨lo, hi⟩ := ih (estep s b).1
    rw [encode, List.length_append, Nat.add_comm]
    -- one octet read, one or two written
    rcases estep_out s b with h | h <;> rw [h]
    · exact ⟨Nat.succ_le_succ lo, Nat.le_succ_of_le (Nat.succ_le_succ hi)⟩
    · exact ⟨Nat.le_succ_of_le (Nat.succ_le_succ lo), Nat.add_le_add_right hi 2⟩

end LV.C03
