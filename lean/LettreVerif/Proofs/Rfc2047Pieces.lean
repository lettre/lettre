import LettreVerif.Model.HeaderEnc
import LettreVerif.Proofs.BodyEnc
/-!
# The text `rfc2047::encode` puts into one encoded-word

What fits the line, cut back to a character boundary (`truncate_to_char_boundary`), or the first character if nothing
fits: a non-empty prefix of at most 45 octets which, unless it is all of the text, fills the line (`written_spec`) — for
text that never has four continuation octets in a row.
-/
namespace LV.HeaderEnc
open LV

/-- never four continuation octets in a row: true of every Rust `str` (`Utf8Runs.contRuns_str`) -/
def ContRunsLe3 (s : Bytes) : Prop :=
  ∀ i, ¬ (isCont (s.getD i 0) = true ∧ isCont (s.getD (i + 1) 0) = true ∧ isCont (s.getD (i + 2) 0) = true ∧
          isCont (s.getD (i + 3) 0) = true)

theorem contRuns_drop (s : Bytes) (k : Nat) (h : ContRunsLe3 s) : ContRunsLe3 (s.drop k) := by
  intro i hi
  simp only [List.getD_eq_getElem?_getD, List.getElem?_drop, ← Nat.add_assoc] at hi
  exact h (k + i) hi

theorem contRuns_suffix (a b : Bytes) (h : ContRunsLe3 (a ++ b)) : ContRunsLe3 b := by
  have := contRuns_drop _ a.length h
  rwa [List.drop_left] at this

/-- no bound on `j`: beyond the prefix `getD` gives 0, which is no continuation octet -/
theorem cont_append {a : Bytes} (b : Bytes) {j : Nat} (h : isCont (a.getD j 0) = true) :
    isCont ((a ++ b).getD j 0) = true := by
  by_cases hl : j < a.length
  · simpa only [List.getD_eq_getElem?_getD, List.getElem?_append_left hl] using h
  · rw [List.getD_eq_getElem?_getD, List.getElem?_eq_none (Nat.le_of_not_lt hl)] at h
    exact absurd h (by decide)

theorem contRuns_prefix (a b : Bytes) (h : ContRunsLe3 (a ++ b)) : ContRunsLe3 a :=
  fun i hi => h i ⟨cont_append b hi.1, cont_append b hi.2.1, cont_append b hi.2.2.1, cont_append b hi.2.2.2⟩

theorem truncBoundary_step (s : Bytes) (m : Nat) (h : m + 1 < s.length) :
    truncBoundary s (m + 1) = if isCont (s.getD (m + 1) 0) then truncBoundary s m else s.take (m + 1) := by
  rw [truncBoundary, if_neg (Nat.not_le_of_lt h)]

theorem truncBoundary_take (s : Bytes) (m : Nat) :
    ∃ k, k ≤ m ∧ (s.length ≤ m → k = m) ∧ truncBoundary s m = s.take k ∧
      ∀ i, k < i → i ≤ m → isCont (s.getD i 0) = true := by
  induction m with
  | zero => exact ⟨0, Nat.le_refl _, fun _ => rfl, rfl, fun i h1 h2 => absurd (Nat.lt_of_lt_of_le h1 h2) (Nat.lt_irrefl _)⟩
  | succ m ih =>
    by_cases h : m + 1 < s.length
    · rw [truncBoundary_step s m h]
      split
      · rename_i hc
        obtain ⟨k, hk, _, e, hr⟩ := ih
        refine ⟨k, Nat.le_succ_of_le hk, fun hl => absurd hl (Nat.not_le_of_lt h), e, fun i h1 h2 => ?_⟩
        rcases Nat.lt_or_eq_of_le h2 with h2 | rfl
        · exact hr i h1 (Nat.le_of_lt_succ h2)
        · exact hc
      · exact ⟨m + 1, Nat.le_refl _, fun _ => rfl, rfl,
          fun i h1 h2 => absurd (Nat.lt_of_lt_of_le h1 h2) (Nat.lt_irrefl _)⟩
    · refine ⟨m + 1, Nat.le_refl _, fun _ => rfl, ?_,
        fun i h1 h2 => absurd (Nat.lt_of_lt_of_le h1 h2) (Nat.lt_irrefl _)⟩
      rw [truncBoundary, if_pos (Nat.le_of_not_lt h), List.take_of_length_le (Nat.le_of_not_lt h)]

theorem truncBoundary_spec (s : Bytes) (hc : ContRunsLe3 s) (m : Nat) :
    ∃ k, k ≤ m ∧ m ≤ k + 3 ∧ (s.length ≤ m → k = m) ∧ truncBoundary s m = s.take k := by
  obtain ⟨k, hk, hall, e, hr⟩ := truncBoundary_take s m
  refine ⟨k, hk, Nat.le_of_not_lt fun hlt => ?_, hall, e⟩
  have run : ∀ j, 0 < j → j ≤ 4 → isCont (s.getD (k + j) 0) = true := fun j h0 h4 =>
    hr _ (Nat.lt_add_of_pos_right h0) (Nat.le_trans (Nat.add_le_add_left h4 k) hlt)
  exact hc (k + 1) ⟨run 1 (by decide) (by decide), run 2 (by decide) (by decide), run 3 (by decide) (by decide),
    run 4 (by decide) (by decide)⟩

/-- the octets of text `rfc2047::encode` allows the next encoded-word on a line of `L` octets: its base64 form, four
    octets for three, with `=?utf-8?b?`, `?=` and the CRLF has to fit into 76; on an empty line 62 / 4 * 3 = 45 -/
def room (L : Nat) : Nat := (maxLineLen - (10 + 2 + L + 2)) / 4 * 3

def fitting (L : Nat) (s : Bytes) : Bytes := truncBoundary s (min (room L) s.length)

/-- the text of the next encoded-word -/
def written (L : Nat) (s : Bytes) : Bytes := if (fitting L s).isEmpty then firstChar s else fitting L s

theorem room_anti {L L' : Nat} (h : L ≤ L') : room L' ≤ room L :=
  Nat.mul_le_mul_right 3 (Nat.div_le_div_right (Nat.sub_le_sub_left (Nat.add_le_add_right (Nat.add_le_add_left h _) 2) _))

theorem room_le (L : Nat) : room L ≤ 45 := room_anti (Nat.zero_le L)

theorem room_zero {L : Nat} (h : 60 ≤ L) : room L = 0 := Nat.eq_zero_of_le_zero (room_anti h)

theorem fitting_full {L : Nat} (h : 60 ≤ L) (s : Bytes) : fitting L s = [] := by
  rw [fitting, room_zero h, Nat.zero_min]; rfl

/-- `4 * ((k + 2) / 3)`: the length of the base64 form of `k` octets -/
theorem room_used {L k : Nat} (h : room L ≤ k + 3) : 55 ≤ L + 4 * ((k + 2) / 3) := by
  simp only [room, maxLineLen] at h; omega

theorem fitting_spec (L : Nat) (s : Bytes) (hc : ContRunsLe3 s) :
    ∃ k, k ≤ room L ∧ k ≤ s.length ∧ fitting L s = s.take k ∧ (k < s.length → 55 ≤ L + 4 * ((k + 2) / 3)) := by
  obtain ⟨k, hk, hk3, hall, e⟩ := truncBoundary_spec s hc (min (room L) s.length)
  refine ⟨k, Nat.le_trans hk (Nat.min_le_left _ _), Nat.le_trans hk (Nat.min_le_right _ _), e, fun h => room_used ?_⟩
  -- not all of the text was taken: the room was the limit
  rcases Nat.le_total (room L) s.length with hle | hle
  · rwa [Nat.min_eq_left hle] at hk3
  · rw [Nat.min_eq_right hle] at hall
    exact absurd (hall (Nat.le_refl _)) (Nat.ne_of_lt h)

theorem full_of_fitting_nil {L : Nat} {s : Bytes} (hc : ContRunsLe3 s) (hs : s ≠ []) (h : (fitting L s).isEmpty = true) :
    55 ≤ L := by
  obtain ⟨k, _, _, e, hfull⟩ := fitting_spec L s hc
  obtain rfl : k = 0 := (List.take_eq_nil_iff.mp (e ▸ List.isEmpty_iff.mp h)).resolve_right hs
  exact hfull (List.length_pos_iff.mpr hs)

theorem firstChar_spec (s : Bytes) (hs : s ≠ []) (hc : ContRunsLe3 s) :
    ∃ k, 1 ≤ k ∧ k ≤ 4 ∧ k ≤ s.length ∧ firstChar s = s.take k := by
  obtain ⟨b, r, rfl⟩ := List.exists_cons_of_ne_nil hs
  have hp : r.takeWhile isCont <+: r := List.takeWhile_prefix _
  refine ⟨(r.takeWhile isCont).length + 1, Nat.le_add_left _ _, Nat.succ_le_succ (Nat.le_of_not_lt fun h4 => ?_),
    Nat.succ_le_succ hp.length_le, ?_⟩
  · -- four continuation octets after the first octet
    have run : ∀ i, i < 4 → isCont ((b :: r).getD (i + 1) 0) = true := fun i hi => by
      have hi' : i < (r.takeWhile isCont).length := Nat.lt_of_lt_of_le hi h4
      have hir : i < r.length := Nat.lt_of_lt_of_le hi' hp.length_le
      rw [List.getD_cons_succ, List.getD_eq_getElem?_getD, List.getElem?_eq_getElem hir, Option.getD_some, ← hp.getElem hi']
      exact List.all_eq_true.mp List.all_takeWhile _ (List.getElem_mem hi')
    exact hc 1 ⟨run 0 (by decide), run 1 (by decide), run 2 (by decide), run 3 (by decide)⟩
  · rw [List.take_succ_cons, ← List.prefix_iff_eq_take.mp hp]
    rfl

theorem written_spec (L : Nat) (s : Bytes) (hs : s ≠ []) (hc : ContRunsLe3 s) :
    ∃ d r, s = d ++ r ∧ written L s = d ∧ d ≠ [] ∧ d.length ≤ 45 ∧ (r ≠ [] → 60 ≤ L + 12 + (Base64.enc d).length) := by
  have hlen : 0 < s.length := List.length_pos_iff.mpr hs
  suffices ∃ k, 1 ≤ k ∧ k ≤ 45 ∧ k ≤ s.length ∧ written L s = s.take k ∧ (k < s.length → 55 ≤ L + 4 * ((k + 2) / 3)) by
    obtain ⟨k, h1, h45, hkl, e, hfull⟩ := this
    have hl : (s.take k).length = k := List.length_take.trans (Nat.min_eq_left hkl)
    refine ⟨s.take k, s.drop k, (List.take_append_drop k s).symm, e, List.ne_nil_of_length_pos (hl.symm ▸ h1),
      hl.symm ▸ h45, fun hr => ?_⟩
    -- with `=?utf-8?b?` and `?=`, 12 octets
    rw [BodyEnc.enc_len, hl, Nat.add_right_comm]
    exact Nat.add_le_add (hfull (Nat.lt_of_not_le fun hge => hr (List.drop_eq_nil_of_le hge))) (by decide : 5 ≤ 12)
  obtain ⟨k, hkr, hkl, e, hfull⟩ := fitting_spec L s hc
  by_cases hk : k = 0
  · -- nothing fits: the line is nearly full
    subst hk
    obtain ⟨j, hj1, hj4, hjl, ej⟩ := firstChar_spec s hs hc
    refine ⟨j, hj1, Nat.le_trans hj4 (by decide), hjl, ?_, fun _ => Nat.le_trans (hfull hlen) (Nat.le_add_right _ _)⟩
    rw [written, e, ej]
    rfl
  · refine ⟨k, Nat.pos_of_ne_zero hk, Nat.le_trans hkr (room_le L), hkl, ?_, hfull⟩
    have : (s.take k).isEmpty = false := by
      obtain ⟨k', rfl⟩ := Nat.exists_eq_succ_of_ne_zero hk
      obtain ⟨b, r, rfl⟩ := List.exists_cons_of_ne_nil hs
      rfl
    rw [written, e, this]
    rfl

end LV.HeaderEnc
