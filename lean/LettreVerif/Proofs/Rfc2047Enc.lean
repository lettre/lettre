import LettreVerif.Proofs.HeaderEnc
import LettreVerif.Spec.HeaderReader
/-!
# Encoder side of C12: what the header-value encoder writes, seen through RFC 5322 unfolding

`w.view` is what a reader has once it has unfolded (`unfold` of `Spec/HeaderReader.lean`) what `w` wrote; `Shows w x` /
`Tight w x` say that it is `x`, with one lemma per writer operation. On top of them one encoded-word (`write_word`),
`rfc2047::encode` (`rfc_view`) and `flush_encode_buf` (`flushBuf_view`).
-/
namespace LV.HeaderEnc
open LV LV.HeaderReader

/-! ## unfolding -/

theorem unfold_cons_ne (x : Byte) (r : Bytes) (hx : x ≠ 13) : unfold (x :: r) = x :: unfold r :=
  unfold.eq_2 x r (fun _ _ e _ => hx e)

theorem unfold_fold (r : Bytes) : unfold (13 :: 10 :: 32 :: r) = 32 :: unfold r := by
  rw [unfold.eq_1, if_pos (.inl rfl)]
  exact unfold_cons_ne 32 r (by decide)

theorem unfold_append_wf {a : Bytes} (h : scan .norm a = some .norm) (b : Bytes) :
    unfold (a ++ b) = unfold a ++ unfold b := by
  induction a, h using scan_induct with
  | nil => rfl
  | plain x a hx _ _ ih => rw [List.cons_append, unfold_cons_ne _ _ hx, unfold_cons_ne _ _ hx, ih, List.cons_append]
  | fold a _ ih => rw [List.cons_append, List.cons_append, List.cons_append, unfold_fold, unfold_fold, ih, List.cons_append]

theorem unfold_plain (b : Bytes) (h : Plain b) : unfold b = b := by
  induction b with
  | nil => rfl
  | cons x r ih =>
    obtain ⟨hx, hr⟩ := List.forall_mem_cons.mp h
    rw [unfold_cons_ne x r (printable_not_cr x hx), ih hr]

theorem unfold_fold_append {a : Bytes} (h : scan .norm a = some .norm) (r : Bytes) :
    unfold (a ++ 13 :: 10 :: 32 :: r) = unfold (a ++ 32 :: r) := by
  rw [unfold_append_wf h, unfold_append_wf h, unfold_fold, unfold_cons_ne 32 r (by decide)]

/-! ## the writer seen through unfolding -/

def W.view (w : W) : Bytes := unfold w.out

theorem view_append {w w' : W} (h : Inv w) {x : Bytes} (e : w'.out = w.out ++ x) : w'.view = w.view ++ unfold x := by
  rw [W.view, e, unfold_append_wf (view_scan h)]
  rfl

theorem view_addSpaces {w : W} (h : Inv w) (n : Nat) :
    ({ w with spaces := w.spaces + n } : W).view = w.view ++ List.replicate n 32 := by
  rw [view_append h (out_addSpaces w n), unfold_plain _ (plain_spaces n)]

theorem view_newLine {w : W} (h : scan .norm w.bytes = some .norm) (hs : 1 ≤ w.spaces) : w.newLine.view = w.view := by
  obtain ⟨k, hk⟩ := Nat.exists_eq_succ_of_ne_zero (Nat.ne_of_gt hs)
  have e : w.newLine.out = w.bytes ++ 13 :: 10 :: List.replicate w.spaces 32 := by
    rw [W.out, bytes_newLine, List.append_assoc]; rfl
  rw [W.view, W.view, e, W.out, hk, List.replicate_succ, unfold_fold_append h]

/-- the writer is well formed, and a reader who unfolds what it has written (pending spaces included) has `x` -/
structure Shows (w : W) (x : Bytes) : Prop where
  inv : Inv w
  view : w.view = x

/-- `Shows`, inside a line and with no space pending -/
structure Tight (w : W) (x : Bytes) : Prop where
  norm : scan .norm w.bytes = some .norm
  sp : w.spaces = 0
  view : w.view = x

section shows
variable {w : W} {x : Bytes}

theorem Tight.shows (h : Tight w x) : Shows w x := ⟨.of_norm h.norm, h.view⟩

theorem tight_start (l : Nat) : Tight ⟨[], l, 0, false⟩ [] := ⟨rfl, rfl, by simp [W.view, W.out, W.bytes, unfold]⟩

theorem Shows.space (h : Shows w x) : Shows w.space (x ++ [32]) :=
  ⟨inv_space h.inv, by rw [← h.view]; exact view_addSpaces h.inv 1⟩

theorem Shows.writeStr (h : Shows w x) (s : Bytes) (hs : Plain s) : Shows (w.writeStr s) (x ++ s) :=
  ⟨h.inv.writeStr s hs, by rw [view_append h.inv (out_writeStr w s), unfold_plain s hs, h.view]⟩

theorem Shows.newLine (h : Shows w x) (hn : scan .norm w.bytes = some .norm) (hs : 1 ≤ w.spaces) : Shows w.newLine x :=
  ⟨inv_newLine hn hs, (view_newLine hn hs).trans h.view⟩

theorem Shows.emitTok (h : Shows w x) (t : Bytes) (ht : Plain t) : Shows (w.emitTok t) (x ++ t) := by
  rcases emitTok_cases h.inv t with e | ⟨hn, hs, e⟩
  · rw [e]; exact h.writeStr t ht
  · rw [e]; exact (h.newLine hn hs).writeStr t ht

theorem Shows.foldWrite (h : Shows w x) (s : Bytes) (hs : Plain s) : Shows (foldWrite w s) (x ++ s) :=
  foldWrite_induct (P := fun w' y => Plain y → Shows w' (x ++ y))
    (fun ih hy => List.append_assoc x _ _ ▸ (ih (plain_append.mp hy).1).space)
    (fun t _ ih hy => List.append_assoc x _ _ ▸ (ih (plain_append.mp hy).1).emitTok t (plain_append.mp hy).2)
    s (fun _ => (List.append_nil x).symm ▸ h) hs

theorem Shows.writeStr_tight (h : Shows w x) (s : Bytes) (hs : Plain s) (h32 : ∀ b ∈ s, b ≠ 32) : Tight (w.writeStr s) (x ++ s) :=
  ⟨inv_writeStr h.inv s hs, (writeStr_nospace w s h32).1, (h.writeStr s hs).view⟩

theorem Shows.flush (h : Shows w x) : scan .norm w.flushSpaces.bytes = some .norm ∧ unfold w.flushSpaces.bytes = x :=
  ⟨flush_norm h.inv, by rw [out_flush]; exact h.view⟩

theorem Tight.writeStr (h : Tight w x) (s : Bytes) (hs : Plain s) (h32 : ∀ b ∈ s, b ≠ 32) :
    Tight (w.writeStr s) (x ++ s) ∧ (w.writeStr s).lineLen = w.lineLen + s.length := by
  refine ⟨h.shows.writeStr_tight s hs h32, ?_⟩
  rw [(writeStr_nospace w s h32).2, h.sp, Nat.add_zero]

theorem Tight.lead {p : W} (h : Tight p x) (s : Bytes) (hs : Plain s) (h32 : ∀ b ∈ s, b ≠ 32) :
    Tight ((p.newLine.writeStr [32]).writeStr s) (x ++ [32] ++ s) ∧
      ((p.newLine.writeStr [32]).writeStr s).lineLen = 1 + s.length := by
  -- after a line break `write_str(" ")` only leaves a blank pending, the state `Inv` allows right after a fold:
  -- `rfc2231::encode` starts its continuation lines so (the folding writer buffers the blank before it breaks)
  have e : p.newLine.writeStr [32] = ⟨[] :: [13, 10] :: p.chunks, 0, 1, false⟩ := by
    obtain ⟨cs, l, sp, nl⟩ := p
    cases (h.sp : sp = 0)
    rfl
  have hb : (p.newLine.writeStr [32]).bytes = p.bytes ++ [13, 10] := by
    rw [e, bytes_cons, List.append_nil]; exact bytes_newLine p
  have ho : (p.newLine.writeStr [32]).out = p.out ++ [13, 10, 32] := by
    rw [W.out, hb, W.out, h.sp, e]; simp
  have hl : Shows (p.newLine.writeStr [32]) (x ++ [32]) :=
    ⟨.inr ⟨by rw [hb, scan_append, h.norm]; rfl, e ▸ Nat.le_refl 1, e ▸ rfl, e ▸ rfl⟩,
      by rw [view_append h.shows.inv ho, h.view]; rfl⟩
  refine ⟨hl.writeStr_tight s hs h32, ?_⟩
  rw [(writeStr_nospace _ s h32).2, e]
  rfl

end shows

theorem view_foldWrite {w : W} (h : Inv w) (s : Bytes) (hs : Plain s) : (foldWrite w s).view = w.view ++ s :=
  (Shows.foldWrite ⟨h, rfl⟩ s hs).view

/-! ## one encoded-word -/

/-- the encoded-word carrying `d` -/
def ew (d : Bytes) : Bytes := encPrefix ++ Base64.enc d ++ encSuffix

theorem b64_no_space (d : Bytes) : ∀ b ∈ Base64.enc d, b ≠ 32 :=
  fun b hb => (BodyEnc.b64Char_props b (BodyEnc.enc_chars d b hb)).2.2.1

theorem write_word {w : W} (h : Inv w) (d : Bytes) (hd : d ≠ []) :
    (((w.writeStr encPrefix).writeStr (Base64.enc d)).writeStr encSuffix).view = w.view ++ ew d ∧
    scan .norm (((w.writeStr encPrefix).writeStr (Base64.enc d)).writeStr encSuffix).bytes = some .norm ∧
    (((w.writeStr encPrefix).writeStr (Base64.enc d)).writeStr encSuffix).spaces = 0 ∧
    (((w.writeStr encPrefix).writeStr (Base64.enc d)).writeStr encSuffix).lineLen =
      w.lineLen + w.spaces + 12 + (Base64.enc d).length := by
  have s1 := (Shows.mk h rfl).writeStr _ plain_prefix
  have s2 := s1.writeStr _ (plain_b64 d)
  have f1 := writeStr_nospace w encPrefix (by decide)
  have f2 := writeStr_nospace (w.writeStr encPrefix) (Base64.enc d) (b64_no_space d)
  have f3 := writeStr_nospace ((w.writeStr encPrefix).writeStr (Base64.enc d)) encSuffix (by decide)
  refine ⟨?_, inv_writeStr s2.inv _ plain_suffix, f3.1, ?_⟩
  · rw [(s2.writeStr _ plain_suffix).view, ew, List.append_assoc, List.append_assoc, List.append_assoc]
  · rw [f3.2, f2.2, f2.1, f1.2, f1.1]
    exact Nat.add_right_comm (w.lineLen + w.spaces + 10) (Base64.enc d).length 2

/-- encoded-words, each after one space -/
def runR : List Bytes → Bytes
  | [] => []
  | d :: ds => 32 :: ew d ++ runR ds

/-- encoded-words separated by one space -/
def run1 : List Bytes → Bytes
  | [] => []
  | d :: ds => ew d ++ runR ds

theorem runR_cons_eq (d : Bytes) (ds : List Bytes) : runR (d :: ds) = 32 :: run1 (d :: ds) := rfl

/-- the state in which `rfc2047::encode` continues after an encoded-word: on a full line with nothing pending, or right
    after the fold that follows. Full: unless the word took all of the text, `written_spec` and `write_word` put the line
    at 60 octets or more, and from 60 on nothing fits (`room_zero`). -/
def AfterWord (w : W) : Prop :=
  (scan .norm w.bytes = some .norm ∧ 60 ≤ w.lineLen ∧ w.spaces = 0) ∨
  (scan .norm w.bytes = some .nl ∧ w.spaces = 1 ∧ w.lineLen = 0 ∧ w.canNL = false)

theorem refold_spec {w : W} (h : scan .norm w.bytes = some .norm) :
    w.refold.lineLen = 0 ∧ 1 ≤ w.refold.spaces ∧ (w.spaces = 0 → AfterWord w.refold) ∧
      w.refold.view = w.view ++ (if w.spaces = 0 then [32] else []) := by
  by_cases hsp : w.spaces = 0
  · -- nothing pending: the blank is buffered, `newLine` and `space` commute
    have e : w.refold = w.space.newLine := if_pos (beq_iff_eq.mpr hsp)
    rw [e, if_pos hsp]
    exact ⟨rfl, Nat.le_add_left 1 _, fun _ => .inr ⟨scan_newLine h, congrArg (· + 1) hsp, rfl, rfl⟩,
      (view_newLine (w := w.space) h (Nat.le_add_left 1 _)).trans (view_addSpaces (.of_norm h) 1)⟩
  · have e : w.refold = w.newLine := if_neg fun e => hsp (beq_iff_eq.mp e)
    rw [e, if_neg hsp, List.append_nil]
    exact ⟨rfl, Nat.pos_of_ne_zero hsp, fun e => absurd e hsp, view_newLine h (Nat.pos_of_ne_zero hsp)⟩

/-- the fuel of `rfc_view` after a word: it took at least one octet of the text, two units, of which the next round's
    fold takes at most one -/
theorem fuel_word {n m c fuel : Nat} (p : Prop) [Decidable p] (hlt : n < m) (hf : 2 * m + c + 1 ≤ fuel + 1) :
    2 * n + (if p then 0 else 1) + 1 ≤ fuel := by
  have h2 : 2 * n + 2 ≤ fuel :=
    Nat.le_trans (Nat.mul_le_mul_left 2 hlt) (Nat.le_trans (Nat.le_add_right _ c) (Nat.le_of_succ_le_succ hf))
  split
  · exact Nat.le_of_succ_le h2
  · exact h2

/-- the fuel `flush_encode_buf` gives `rfc2047::encode` is enough for `rfc_view` -/
theorem fuel_start (n : Nat) (p : Prop) [Decidable p] : 2 * n + (if p then 0 else 1) + 1 ≤ 2 * n + 4 := by
  split
  · exact Nat.le_add_right _ 3
  · exact Nat.le_add_right _ 2

/-- what `rfc2047::encode` writes: encoded-words of 1..45 octets that together carry the text, one space apart once
    unfolded. Continuing after a word with nothing pending (`wrote`, no spaces) the line is full (`AfterWord`): it folds
    first, and the fold supplies the blank before the first word (`runR`). Fuel: a word takes at least one octet of the
    text (two units); a fold (one unit) needs a line that is not empty and leaves an empty one, so no two folds follow
    each other. -/
theorem rfc_view (fuel : Nat) : ∀ (w : W) (s : Bytes) (wrote : Bool),
    2 * s.length + (if w.lineLen = 0 then 0 else 1) + 1 ≤ fuel → ContRunsLe3 s → Inv w →
    (wrote = true → s ≠ [] → AfterWord w) →
    ∃ ds, ds.flatten = s ∧ (∀ d ∈ ds, d ≠ [] ∧ d.length ≤ 45) ∧ Inv (rfc2047 fuel w s wrote) ∧
      (rfc2047 fuel w s wrote).view = w.view ++ (if wrote = true ∧ w.spaces = 0 then runR ds else run1 ds) := by
  induction fuel with
  | zero => exact fun w s wrote hf => absurd hf (Nat.not_succ_le_zero _)
  | succ fuel ih =>
    intro w s wrote hf hu hinv hpre
    by_cases hs : s = []
    · subst hs
      exact ⟨[], rfl, nofun, hinv, by simp [rfc2047, runR, run1]⟩
    rw [rfc2047_succ fuel w wrote hs]
    split
    · -- nothing fits: fold, and try again on the new line
      rename_i hc
      simp only [Bool.and_eq_true, Bool.or_eq_true, decide_eq_true_eq] at hc
      have hL0 : w.lineLen ≠ 0 := fun e => absurd (e ▸ full_of_fitting_nil hu hs hc.1) (by decide)
      have hn := hinv.norm hL0
      -- after an encoded-word nothing is pending
      have hw : wrote = true → w.spaces = 0 := fun hw => by
        rcases hpre hw hs with ⟨_, _, h⟩ | ⟨h, _⟩
        · exact h
        · rw [hn] at h; cases h
      have hi' := inv_refold hinv hL0
      obtain ⟨h0, h1, haw, hv⟩ := refold_spec hn
      generalize w.refold = w' at hi' h0 h1 haw hv ⊢
      rw [if_neg hL0] at hf
      obtain ⟨ds, hds, hgood, hi, hview⟩ := ih w' s wrote (by rw [h0, if_pos rfl]; exact Nat.le_of_succ_le_succ hf) hu
        hi' (fun hw' _ => haw (hw hw'))
      refine ⟨ds, hds, hgood, hi, ?_⟩
      rw [hview, hv, if_neg (fun h => absurd (h.2 ▸ h1) (by decide) : ¬ (wrote = true ∧ w'.spaces = 0)), List.append_assoc]
      refine congrArg (w.view ++ ·) ?_
      by_cases hsp : w.spaces = 0
      · rw [if_pos hsp, if_pos ⟨hc.2.resolve_right fun h => absurd (hsp ▸ h) (by decide), hsp⟩]
        cases ds with
        | nil => exact absurd hds.symm hs
        | cons d ds => rfl
      · rw [if_neg hsp, if_neg (fun h => hsp h.2)]
        rfl
    · -- an encoded-word is written
      rename_i hc
      obtain ⟨d, r, rfl, hwd, hd, hd45, hfull⟩ := written_spec w.lineLen s hs hu
      rw [hwd, List.drop_left]
      obtain ⟨hv, hscan, hsp0, hll⟩ := write_word hinv d hd
      generalize (((w.writeStr encPrefix).writeStr (Base64.enc d)).writeStr encSuffix) = w' at hv hscan hsp0 hll ⊢
      -- the line is full after the word, all the more with the pending spaces written before it
      have h60 : r ≠ [] → 60 ≤ w'.lineLen := fun hne => hll ▸ Nat.le_trans (hfull hne)
        (Nat.add_le_add_right (Nat.add_le_add_right (Nat.le_add_right _ w.spaces) 12) _)
      have hlt : r.length < (d ++ r).length := List.length_append ▸ Nat.lt_add_of_pos_left (List.length_pos_iff.mpr hd)
      obtain ⟨ds, hds, hgood, hi, hview⟩ := ih w' r true (fuel_word _ hlt hf) (contRuns_suffix _ _ hu) (.of_norm hscan)
        (fun _ hne => .inl ⟨hscan, h60 hne, hsp0⟩)
      refine ⟨d :: ds, by rw [List.flatten_cons, hds], List.forall_mem_cons.mpr ⟨⟨hd, hd45⟩, hgood⟩, hi, ?_⟩
      -- after an encoded-word with nothing pending the line is full: nothing would have fitted
      have hsel : ¬ (wrote = true ∧ w.spaces = 0) := by
        intro ⟨hw1, hs0⟩
        rcases hpre hw1 hs with ⟨_, h60, _⟩ | ⟨_, h1, _, _⟩
        · exact hc (by rw [fitting_full h60, hw1]; rfl)
        · exact absurd (hs0 ▸ h1) (by decide)
      rw [hview, hv, if_neg hsel, if_pos ⟨rfl, hsp0⟩, run1, List.append_assoc]

theorem flushBuf_view {w : W} (hi : Inv w) (buf : Bytes) (hu : ContRunsLe3 buf) :
    ∃ ds, ds.flatten = trimEnd buf ∧ (∀ d ∈ ds, d ≠ [] ∧ d.length ≤ 45) ∧ Inv (flushBuf w buf) ∧
      (flushBuf w buf).view = w.view ++ run1 ds ++ List.replicate (buf.length - (trimEnd buf).length) 32 := by
  unfold flushBuf
  split
  · rename_i hb
    rw [List.isEmpty_iff.mp hb]
    exact ⟨[], rfl, nofun, hi, (List.append_nil _).symm.trans (List.append_nil _).symm⟩
  · obtain ⟨ds, hds, hgood, hi', hv⟩ := rfc_view (2 * (trimEnd buf).length + 4) w (trimEnd buf) false (fuel_start _ _)
      (contRuns_prefix _ _ (by rw [trimEnd_split]; exact hu)) hi nofun
    rw [if_neg (fun h => Bool.false_ne_true h.1)] at hv
    exact ⟨ds, hds, hgood, inv_addSpaces hi' _, by rw [view_addSpaces hi', hv]⟩

end LV.HeaderEnc
