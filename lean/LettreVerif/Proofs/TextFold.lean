import LettreVerif.Proofs.MailboxEnc
import LettreVerif.Proofs.HeaderPlain
/-!
# Line lengths of a text header value (`HeaderValue::new` on words separated by single spaces)

Such a value is made of plain words, so it is only folded (`encodeValue_plain`), and the folding writer is followed word
by word: `Tracks` of `Proofs/MailboxEnc.lean` is carried through `foldWrite` / `emitTok`.
-/
namespace LV.TextFold
open LV LV.HeaderEnc LV.HeaderReader LV.MailboxEnc

/-- the shape `=?…?=` (at least four octets) that makes `HeaderValueEncoder` encode a word -/
def encShaped (t : Bytes) : Bool :=
  t.length ≥ 4 && [61, 63].isPrefixOf t && t.drop (t.length - 2) == [63, 61]

/-- a word for the line limit `lim`: visible ASCII, non-empty, shorter than `lim` (so that it fits on a continuation line
    after its blank), not of the shape `=?…?=` -/
structure WordOkL (lim : Nat) (t : Bytes) : Prop where
  vis : ∀ b ∈ t, 33 ≤ b.toNat ∧ b.toNat ≤ 126
  ne : t ≠ []
  len : t.length + 1 ≤ lim
  plainShape : encShaped t = false

/-- `WordOkL` at the writer's fold column (at most 75 octets); the line-length theorems take `WordOkL lim` for their own limit -/
abbrev WordOk (t : Bytes) : Prop := WordOkL 76 t

/-- words separated by single spaces -/
def joinSp : List Bytes → Bytes
  | [] => []
  | [t] => t
  | t :: ts => t ++ 32 :: joinSp ts

theorem joinSp_cons (t t2 : Bytes) (ts : List Bytes) : joinSp (t :: t2 :: ts) = t ++ 32 :: joinSp (t2 :: ts) := rfl

variable {lim : Nat} {t : Bytes}

theorem WordOkL.mono {lim' : Nat} (h : WordOkL lim t) (hl : lim ≤ lim') : WordOkL lim' t :=
  ⟨h.vis, h.ne, Nat.le_trans h.len hl, h.plainShape⟩

theorem WordOkL.nosp (h : WordOkL lim t) : ∀ b ∈ t, b ≠ 32 ∧ b ≠ 9 := by
  intro b hb
  have := h.vis b hb
  constructor <;> (intro e; subst e; simp at this)

theorem WordOkL.no32 (h : WordOkL lim t) : ∀ b ∈ t, b ≠ 32 := fun b hb => (h.nosp b hb).1

theorem WordOkL.plain (h : WordOkL lim t) : Plain t := by
  intro b hb
  have := h.vis b hb
  simp only [printable, Bool.or_eq_true, Bool.and_eq_true, decide_eq_true_eq, beq_iff_eq]
  right; omega

theorem hasEncMarker_eq (w : Bytes) : hasEncMarker w = (wsTokens [] w).any encShaped := rfl

theorem plainWord (h : WordOkL lim t) (sp : Bool) : PlainWord (t ++ if sp then [32] else []) := by
  constructor
  · exact plain_allowed (h.plain.append (by cases sp <;> decide))
  · rw [hasEncMarker_eq, wsTokens_run t h.nosp]
    cases sp <;> simp [wsTokens, h.plainShape, show encShaped [] = false from rfl]

theorem joinSp_words (ts : List Bytes) (h : ∀ u ∈ ts, WordOkL lim u) : ∀ x ∈ splitInclusive [] (joinSp ts), PlainWord x := by
  induction ts with
  | nil => exact fun _ hx => nomatch hx
  | cons t ts ih =>
    intro x hx
    have ht := h t List.mem_cons_self
    cases ts with
    | nil =>
      rw [joinSp, splitInclusive_word ht.no32 ht.ne, List.mem_singleton] at hx
      rw [hx, ← List.append_nil t]
      exact plainWord ht false
    | cons t2 ts =>
      rw [joinSp_cons, splitInclusive_word_sp ht.no32] at hx
      rcases List.mem_cons.mp hx with rfl | hx
      · exact plainWord ht true
      · exact ih (fun u hu => h u (List.mem_cons_of_mem _ hu)) x hx

variable {c0 : Nat} {w : W}

structure AfterTextWord (lim c0 : Nat) (w : W) : Prop where
  tracks : Tracks lim c0 w
  len : w.lineLen ≤ lim
  sp : w.spaces = 0
  nl : w.canNL = true

/-- written where the writer stands: at the start of the value, where it is known to fit, or after one pending blank,
    where the writer breaks the line first if the word would pass column 76 -/
theorem word_fits (h76 : maxLineLen ≤ lim) (ht : WordOkL lim t) (h : Tracks lim c0 w) (hl : w.lineLen ≤ lim)
    (hs : w.spaces = 0 ∧ w.lineLen + t.length ≤ lim ∨ w.spaces = 1 ∧ w.canNL = true) : AfterTextWord lim c0 (w.emitTok t) := by
  have hfit : (if (w.canNL && w.spaces ≥ 1 && w.lineLen + w.spaces + t.length > maxLineLen) = true then 0 else w.lineLen) +
      w.spaces + t.length ≤ lim := by
    rcases hs with ⟨h0, hf⟩ | ⟨h1, hn⟩
    · -- no blank pending: the word is written where the writer stands
      simpa [h0] using hf
    · -- one blank pending: the writer breaks the line first if the word would pass column 76
      have hlen := ht.len
      simp only [h1, hn, Bool.true_and, Nat.le_refl, decide_true, decide_eq_true_eq]
      split <;> omega
  obtain ⟨tr, sp, ll⟩ := tracks_token h hl ((w.canNL && w.spaces ≥ 1 && w.lineLen + w.spaces + t.length > maxLineLen) = true)
    t ht.plain ht.no32
  exact ⟨tr, ll ▸ hfit, sp, canNL_writeStr _ (by rw [trimEnd_id t ht.no32]; exact ht.ne)⟩

theorem words_fit (h76 : maxLineLen ≤ lim) : ∀ (t : Bytes) (ts : List Bytes) {w : W}, (∀ u ∈ t :: ts, WordOkL lim u) →
    Tracks lim c0 w → w.lineLen ≤ lim → (w.spaces = 0 ∧ w.lineLen + t.length ≤ lim ∨ w.spaces = 1 ∧ w.canNL = true) →
    AfterTextWord lim c0 (foldWrite w (joinSp (t :: ts))) := by
  intro t ts
  induction ts generalizing t with
  | nil =>
    intro w ht h hl hs
    have hw := ht t List.mem_cons_self
    rw [joinSp, foldWrite_word hw.no32 w hw.ne]
    exact word_fits h76 hw h hl hs
  | cons t2 ts ih =>
    intro w ht h hl hs
    have hw := ht t List.mem_cons_self
    have a := word_fits h76 hw h hl hs
    rw [joinSp_cons, foldWrite_word_sp hw.no32 w hw.ne]
    -- a variable for the writer, so that the hypotheses of the recursive call are not checked through `emitTok` unfolded
    generalize w.emitTok t = w' at a
    exact ih t2 (fun u hu => ht u (List.mem_cons_of_mem _ hu)) (tracks_space a.tracks) a.len
      (Or.inr ⟨congrArg (· + 1) a.sp, a.nl⟩)

/-- `C02.text_value_folded` for every limit `lim ≥ 78` (998: `C02.text_value_within_998`) -/
theorem text_value_lines_lim (lim : Nat) (h78 : 78 ≤ lim) (nameLen : Nat) (ts : List Bytes) (hne : ts ≠ []) (ht : ∀ t ∈ ts, WordOkL lim t)
    (hfirst : ∀ t, ts.head? = some t → nameLen + 2 + t.length ≤ lim) :
    linesOkGo true lim (nameLen + 2) (encodeValue opts nameLen (joinSp ts) ++ [13, 10]) = true := by
  obtain ⟨t, ts, rfl⟩ := List.exists_cons_of_ne_nil hne
  have hf := hfirst t rfl
  have a := words_fit (Nat.le_trans (by decide) h78) t ts ht (tracks_start lim (nameLen + 2))
    (Nat.le_trans (Nat.le_add_right _ _) hf) (Or.inl ⟨rfl, hf⟩)
  rw [encodeValue_plain _ _ (joinSp_words _ ht)]
  exact tracks_end a.tracks a.sp a.len

theorem text_value_lines (nameLen : Nat) (ts : List Bytes) (hne : ts ≠ []) (ht : ∀ t ∈ ts, WordOkL 78 t)
    (hfirst : ∀ t, ts.head? = some t → nameLen + 2 + t.length ≤ 78) :
    linesOkGo true 78 (nameLen + 2) (encodeValue opts nameLen (joinSp ts) ++ [13, 10]) = true :=
  text_value_lines_lim 78 (Nat.le_refl _) nameLen ts hne ht hfirst

end LV.TextFold
