import LettreVerif.Proofs.Bytes
import LettreVerif.Model.TypedHdr
/-!
# `MimeVersion` and `ContentTransferEncoding` read back what they display

The two `u8` pieces of a version are a table of 256 rows (`u8_table`); that a parsed version fits `u8` is the overflow
check of `digitsVal`.
-/
namespace LV.TypedHdr

theorem u8_table : ∀ n < 256, parseU8 (u8Digits n) = some n ∧ 46 ∉ u8Digits n := by
  decide +kernel

theorem u8Digits_length (n : Nat) : (u8Digits n).length ≤ 3 := by
  unfold u8Digits; split
  · simp
  · split <;> simp

theorem untilDot_append (p r : Bytes) (hp : 46 ∉ p) : untilDot (p ++ r) = (p ++ (untilDot r).1, (untilDot r).2) := by
  induction p with
  | nil => rfl
  | cons b p ih =>
    rw [List.mem_cons, not_or] at hp
    have hb : (b == 46) = false := beq_false_of_ne (Ne.symm hp.1)
    simp only [List.cons_append, untilDot, hb, Bool.false_eq_true, if_false, ih hp.2]

theorem mime_roundtrip (a b : Nat) (ha : a < 256) (hb : b < 256) : mimeParse (mimeDisplay a b) = some (a, b) := by
  obtain ⟨pa, da⟩ := u8_table a ha
  obtain ⟨pb, db⟩ := u8_table b hb
  have e1 : untilDot (mimeDisplay a b) = (u8Digits a, some (u8Digits b)) := by
    simp [mimeDisplay, untilDot_append _ _ da, untilDot]
  have e2 : untilDot (u8Digits b) = (u8Digits b, none) := by
    simpa [untilDot] using untilDot_append _ [] db
  simp only [mimeParse, e1, e2, pa, pb]

theorem digitsVal_le (bs : Bytes) : ∀ (acc n : Nat), acc ≤ 255 → digitsVal acc bs = some n → n ≤ 255 := by
  induction bs with
  | nil => intro acc n h e; exact Option.some.inj e ▸ h
  | cons b bs ih =>
    intro acc n h e
    unfold digitsVal at e
    split at e
    · simp only at e
      split at e
      · cases e
      · exact ih _ n (Nat.le_of_not_gt ‹_›) e
    · cases e

theorem parseU8_le (s : Bytes) (n : Nat) (h : parseU8 s = some n) : n ≤ 255 := by
  unfold parseU8 at h
  generalize stripPlus s = t at h
  by_cases he : t.isEmpty = true
  · rw [if_pos he] at h; cases h
  · rw [if_neg he] at h
    exact digitsVal_le _ 0 n (by omega) h

theorem mime_parse_range (s : Bytes) (a b : Nat) (h : mimeParse s = some (a, b)) : a < 256 ∧ b < 256 := by
  unfold mimeParse at h
  split at h
  · cases h
  · split at h
    · rename_i x y hx hy
      cases h
      exact ⟨Nat.lt_succ_of_le (parseU8_le _ _ hx), Nat.lt_succ_of_le (parseU8_le _ _ hy)⟩
    · cases h

theorem cte_roundtrip (c : Cte) : cteParse (cteDisplay c) = some c := by cases c <;> decide +kernel

theorem cte_parse_exact (s : Bytes) (c : Cte) (h : cteParse s = some c) : s = cteDisplay c := by
  unfold cteParse at h
  have := List.find?_some h
  simp only [beq_iff_eq] at this
  exact this.symm

theorem cte_display_injective (c d : Cte) (h : cteDisplay c = cteDisplay d) : c = d := by
  have h1 := cte_roundtrip c
  rw [h, cte_roundtrip d] at h1
  exact (Option.some.inj h1).symm

end LV.TypedHdr
