import LettreVerif.Proofs.HeaderEnc
import LettreVerif.Spec.HeaderReader
/-!
# The RFC 5322 field reader on a section written field by field (C02)

A field whose value is well folded (`scan`) is taken whole (`takeField_scan`) and split at its first colon; so a section
`formatFields fs` whose names are `FName`s is read back as `fs` (`split_formatFields`).
-/
namespace LV.HeaderReader
open LV LV.HeaderEnc

/-- the next octets do not continue the field: not SP / HTAB -/
def NotCont (rest : Bytes) : Prop := ∀ c r, rest = c :: r → c ≠ 32 ∧ c ≠ 9

theorem takeField_cons_ne (acc : Bytes) (b : Byte) (r : Bytes) (hb : b ≠ 13) :
    takeField acc (b :: r) = takeField (b :: acc) r := by
  rw [takeField]
  · intro c r h; exact absurd h hb
  · intro h; exact absurd h hb

theorem takeField_end (acc : Bytes) {rest : Bytes} (hr : NotCont rest) :
    takeField acc (13 :: 10 :: rest) = some (acc.reverse, rest) := by
  cases rest with
  | nil => rfl
  | cons c r => rw [takeField, if_neg (not_or.mpr (hr c r rfl))]

theorem takeField_fold (acc r : Bytes) : takeField acc (13 :: 10 :: 32 :: r) = takeField (32 :: 10 :: 13 :: acc) r := by
  rw [takeField, if_pos (.inl rfl)]

theorem takeField_scan {f : Bytes} (hs : scan .norm f = some .norm) (acc : Bytes) {rest : Bytes} (hr : NotCont rest) :
    takeField acc (f ++ [13, 10] ++ rest) = some (acc.reverse ++ f, rest) := by
  induction f, hs using scan_induct generalizing acc with
  | nil => rw [List.append_nil]; exact takeField_end acc hr
  | plain x a hx _ _ ih =>
    rw [List.cons_append, List.cons_append, takeField_cons_ne _ _ _ hx, ih, List.reverse_cons, List.append_assoc]
    rfl
  | fold a _ ih =>
    simp only [List.cons_append]
    rw [takeField_fold, ih]
    simp only [List.reverse_cons, List.append_assoc, List.cons_append, List.nil_append]

/-- `takeField_scan` under the name and in the form DESIGN.md §0.2 cites; the bound `n` plays no part -/
theorem takeField_wf (n : Nat) : ∀ (f acc rest : Bytes), f.length ≤ n → scan .norm f = some .norm → NotCont rest →
    takeField acc (f ++ [13, 10] ++ rest) = some (acc.reverse ++ f, rest) :=
  fun _ acc _ _ hs hr => takeField_scan hs acc hr

theorem splitColon_field (name v : Bytes) (hn : ∀ b ∈ name, b ≠ 58) :
    splitColon (name ++ [58, 32] ++ v) = some (name, v) := by
  rw [splitColon, List.append_assoc, List.cons_append, takeWhile_ne_append hn, List.drop_left]
  rfl

/-- a field name the reader can take: visible ASCII without ':' -/
def FName (n : Bytes) : Prop := n ≠ [] ∧ ∀ b ∈ n, 33 ≤ b.toNat ∧ b.toNat ≤ 126 ∧ b.toNat ≠ 58

def formatField (f : Bytes × Bytes) : Bytes := f.1 ++ [58, 32] ++ f.2 ++ [13, 10]

def formatFields (fs : List (Bytes × Bytes)) : Bytes := (fs.map formatField).flatten

theorem fname_plain (n : Bytes) (h : FName n) : Plain n := by
  intro b hb
  have := h.2 b hb
  simp only [printable, Bool.or_eq_true, beq_iff_eq, Bool.and_eq_true, decide_eq_true_eq]
  omega

theorem scan_field (n v : Bytes) (hn : FName n) (hv : scan .norm v = some .norm) :
    scan .norm (n ++ [58, 32] ++ v) = some .norm := by
  rw [scan_append, scan_append, scan_norm_plain n (fname_plain n hn)]
  exact hv

theorem notCont_of_head (rest : Bytes) (h : ∀ c r, rest = c :: r → c ≠ 32 ∧ c ≠ 9) : NotCont rest := h

/-- a name starts with a visible octet: neither white space, which would continue the field before it, nor the CR of
    the empty line -/
theorem fname_head {n : Bytes} (h : FName n) : ∃ x xs, n = x :: xs ∧ x ≠ 32 ∧ x ≠ 9 ∧ x ≠ 13 := by
  obtain ⟨x, xs, rfl⟩ := List.exists_cons_of_ne_nil h.1
  have hx := h.2 x List.mem_cons_self
  refine ⟨x, xs, rfl, ?_, ?_, ?_⟩ <;> (rintro rfl; exact absurd hx.1 (by decide))

theorem formatFields_cons (f : Bytes × Bytes) (fs : List (Bytes × Bytes)) (rest : Bytes) :
    formatFields (f :: fs) ++ rest = f.1 ++ [58, 32] ++ f.2 ++ [13, 10] ++ (formatFields fs ++ rest) :=
  List.append_assoc (formatField f) (formatFields fs) rest

theorem notCont_section (fs : List (Bytes × Bytes)) (body : Bytes) (hf : ∀ f ∈ fs, FName f.1) :
    NotCont (formatFields fs ++ [13, 10] ++ body) := by
  intro c r hcr
  cases fs with
  | nil =>
    obtain ⟨rfl, _⟩ := List.cons.inj hcr
    exact ⟨by decide, by decide⟩
  | cons g gs =>
    obtain ⟨n, v⟩ := g
    obtain ⟨x, xs, rfl, h1, h2, _⟩ := fname_head (hf _ List.mem_cons_self)
    obtain ⟨rfl, _⟩ := List.cons.inj hcr
    exact ⟨h1, h2⟩

theorem splitGo_field (fuel : Nat) (n v rest : Bytes) (acc : List (Bytes × Bytes)) (hn : FName n)
    (hv : scan .norm v = some .norm) (hr : NotCont rest) :
    splitGo (fuel + 1) (n ++ [58, 32] ++ v ++ [13, 10] ++ rest) acc = splitGo fuel rest ((n, v) :: acc) := by
  have htf := takeField_scan (scan_field n v hn hv) [] hr
  have hsc := splitColon_field n v fun b hb e => (hn.2 b hb).2.2 (e ▸ rfl)
  obtain ⟨x, xs, rfl, _, _, hx⟩ := fname_head hn
  rw [splitGo.eq_3, htf]
  · simp only [List.reverse_nil, List.nil_append, hsc]
  · exact fun body heq => hx (List.cons.inj heq).1

theorem section_exact (fs : List (Bytes × Bytes)) (body : Bytes)
    (hf : ∀ f ∈ fs, FName f.1 ∧ scan .norm f.2 = some .norm) :
    ∀ (fuel : Nat) (acc : List (Bytes × Bytes)), fs.length < fuel →
      splitGo fuel (formatFields fs ++ [13, 10] ++ body) acc = some (acc.reverse ++ fs, body) := by
  induction fs with
  | nil =>
    intro fuel acc hfu
    obtain ⟨fuel, rfl⟩ := Nat.exists_eq_succ_of_ne_zero (Nat.ne_of_gt (Nat.zero_lt_of_lt hfu))
    simp [formatFields, splitGo]
  | cons f fs ih =>
    intro fuel acc hfu
    obtain ⟨fuel, rfl⟩ := Nat.exists_eq_succ_of_ne_zero (Nat.ne_of_gt (Nat.zero_lt_of_lt hfu))
    obtain ⟨hf1, hfs⟩ := List.forall_mem_cons.mp hf
    rw [List.append_assoc, formatFields_cons, ← List.append_assoc (formatFields fs),
      splitGo_field fuel f.1 f.2 _ acc hf1.1 hf1.2 (notCont_section fs body fun g hg => (hfs g hg).1),
      ih hfs fuel _ (Nat.lt_of_succ_lt_succ hfu), List.reverse_cons, List.append_assoc]
    rfl

/-- `C02.section_read_back`: the reader's fuel is the length of the section -/
theorem split_formatFields (fs : List (Bytes × Bytes)) (body : Bytes)
    (hf : ∀ f ∈ fs, FName f.1 ∧ scan .norm f.2 = some .norm) :
    split (formatFields fs ++ [13, 10] ++ body) = some (fs, body) := by
  have hl : fs.length ≤ (formatFields fs).length := by
    rw [formatFields, ← List.flatMap_def]
    exact length_le_flatMap (fun f => List.append_ne_nil_of_right_ne_nil _ (List.cons_ne_nil _ _)) fs
  refine section_exact fs body hf _ [] (Nat.lt_succ_of_le ?_)
  rw [List.length_append, List.length_append]
  exact Nat.le_trans hl (Nat.le_trans (Nat.le_add_right _ _) (Nat.le_add_right _ _))

end LV.HeaderReader
