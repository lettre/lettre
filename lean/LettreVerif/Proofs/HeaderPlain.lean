import LettreVerif.Proofs.Rfc2047Enc
/-!
# Blank-free runs and plain words

What the scanning functions (`split_inclusive`, the folding loop, the token scan of the `=?…?=` guard) do on a run without
blanks; hence a header value all of whose words are printable ASCII, none of the shape `=?…?=`, is only folded
(`encodeValue_plain`).
-/
namespace LV.HeaderEnc
open LV LV.HeaderReader

theorem flushBuf_nil (w : W) : flushBuf w [] = w := rfl

/-- words that are written as they are -/
def PlainWord (w : Bytes) : Prop := w.all (allowedChar true) = true ∧ hasEncMarker w = false

theorem splitInclusive_run (t : Bytes) (hns : ∀ b ∈ t, b ≠ 32) : ∀ (acc rest : Bytes),
    splitInclusive acc (t ++ rest) = splitInclusive (t.reverse ++ acc) rest := by
  induction t with
  | nil => exact fun _ _ => rfl
  | cons b t ih =>
    intro acc rest
    obtain ⟨hb, ht⟩ := List.forall_mem_cons.mp hns
    rw [List.cons_append, splitInclusive, if_neg (by simpa using hb), ih ht, List.reverse_cons, List.append_assoc]
    rfl

theorem foldGo_run (t : Bytes) (hns : ∀ b ∈ t, b ≠ 32) : ∀ (w : W) (tok rest : Bytes),
    foldGo w tok (t ++ rest) = foldGo w (t.reverse ++ tok) rest := by
  induction t with
  | nil => exact fun _ _ _ => rfl
  | cons b t ih =>
    intro w tok rest
    obtain ⟨hb, ht⟩ := List.forall_mem_cons.mp hns
    rw [List.cons_append, foldGo, if_neg (by simpa using hb), ih ht, List.reverse_cons, List.append_assoc]
    rfl

theorem wsTokens_run (t : Bytes) (hns : ∀ b ∈ t, b ≠ 32 ∧ b ≠ 9) : ∀ (cur rest : Bytes),
    wsTokens cur (t ++ rest) = wsTokens (t.reverse ++ cur) rest := by
  induction t with
  | nil => exact fun _ _ => rfl
  | cons b t ih =>
    intro cur rest
    obtain ⟨hb, ht⟩ := List.forall_mem_cons.mp hns
    rw [List.cons_append, wsTokens, if_neg (by simp [hb]), ih ht, List.reverse_cons, List.append_assoc]
    rfl

section word
variable {t : Bytes} (hns : ∀ b ∈ t, b ≠ 32)
include hns

theorem foldWrite_word (w : W) (hne : t ≠ []) : foldWrite w t = w.emitTok t := by
  have := foldGo_run t hns w [] []
  rw [List.append_nil, List.append_nil] at this
  rw [foldWrite, this, foldGo, if_neg (by simpa using hne), List.reverse_reverse]

theorem foldWrite_word_sp (w : W) (hne : t ≠ []) (rest : Bytes) :
    foldWrite w (t ++ 32 :: rest) = foldWrite (w.emitTok t).space rest := by
  rw [foldWrite, foldGo_run t hns, List.append_nil, foldGo, if_pos (beq_self_eq_true _), if_neg (by simpa using hne),
    List.reverse_reverse]
  rfl

theorem splitInclusive_word (hne : t ≠ []) : splitInclusive [] t = [t] := by
  have := splitInclusive_run t hns [] []
  rw [List.append_nil, List.append_nil] at this
  rw [this, splitInclusive, if_neg (by simpa using hne), List.reverse_reverse]

theorem splitInclusive_word_sp (rest : Bytes) :
    splitInclusive [] (t ++ 32 :: rest) = (t ++ [32]) :: splitInclusive [] rest := by
  rw [splitInclusive_run t hns, List.append_nil, splitInclusive, if_pos (beq_self_eq_true _), List.reverse_cons,
    List.reverse_reverse]

end word

/-! After a blank no token is in progress: what follows is scanned from a fresh start. -/

theorem foldGo_append_sp (b a : Bytes) (w : W) (tok : Bytes) :
    foldGo w tok (a ++ 32 :: b) = foldGo (foldGo w tok (a ++ [32])) [] b := by
  induction a generalizing w tok with
  | nil => rfl
  | cons c a ih =>
    rw [List.cons_append, List.cons_append, foldGo, foldGo]
    by_cases hc : (c == 32) = true
    · rw [if_pos hc, if_pos hc]; exact ih _ []
    · rw [if_neg hc, if_neg hc]; exact ih w (c :: tok)

theorem splitInclusive_append_sp (b a acc : Bytes) :
    splitInclusive acc (a ++ 32 :: b) = splitInclusive acc (a ++ [32]) ++ splitInclusive [] b := by
  induction a generalizing acc with
  | nil => rfl
  | cons c a ih =>
    rw [List.cons_append, List.cons_append, splitInclusive, splitInclusive]
    split
    · rw [ih []]; rfl
    · exact ih (c :: acc)

theorem splitInclusive_snoc (p acc t : Bytes) (ht : ∀ c ∈ t, c ≠ 32) (hne : t ≠ []) :
    splitInclusive acc (p ++ 32 :: t) = splitInclusive acc (p ++ [32]) ++ [t] := by
  rw [splitInclusive_append_sp, splitInclusive_word ht hne]

theorem hvWords_plain (ws : List Bytes) (w : W) (h : ∀ x ∈ ws, PlainWord x) :
    hvWords opts w [] ws = ws.foldl foldWrite w := by
  induction ws generalizing w with
  | nil => rfl
  | cons x ws ih =>
    obtain ⟨⟨h1, h2⟩, hws⟩ := List.forall_mem_cons.mp h
    rw [hvWords, if_pos (by simp [opts, h1, h2]), List.foldl_cons]
    exact ih _ hws

theorem foldl_splitInclusive : ∀ (s acc : Bytes) (w : W), (∀ b ∈ acc, b ≠ 32) →
    (splitInclusive acc s).foldl foldWrite w = foldGo w acc s := by
  have start : ∀ (acc : Bytes) (w : W) (r : Bytes), (∀ b ∈ acc, b ≠ 32) → foldWrite w (acc.reverse ++ r) = foldGo w acc r :=
    fun acc w r h => by
      rw [foldWrite, foldGo_run acc.reverse (fun b hb => h b (List.mem_reverse.mp hb)), List.reverse_reverse, List.append_nil]
  intro s
  induction s with
  | nil =>
    intro acc w h
    rw [splitInclusive]
    split
    · rename_i he; rw [List.isEmpty_iff.mp he]; rfl
    · have := start acc w [] h
      rwa [List.append_nil] at this
  | cons c cs ih =>
    intro acc w h
    rw [splitInclusive]
    split
    · rename_i hc
      obtain rfl : c = 32 := beq_iff_eq.mp hc
      rw [List.foldl_cons, ih [] _ (List.forall_mem_nil _), List.reverse_cons, start acc w [32] h]
      exact (foldGo_append_sp cs [] w acc).symm
    · rename_i hc
      rw [ih (c :: acc) w (List.forall_mem_cons.mpr ⟨by simpa using hc, h⟩), foldGo, if_neg hc]

theorem encodeValue_plain (n : Nat) (value : Bytes) (h : ∀ x ∈ splitInclusive [] value, PlainWord x) :
    encodeValue opts n value = (foldWrite ⟨[], n + 2, 0, false⟩ value).flushSpaces.bytes := by
  rw [encodeValue, hvWords_plain _ _ h, foldl_splitInclusive value [] _ (List.forall_mem_nil _)]
  rfl

theorem plain_of_words (value : Bytes) (h : ∀ x ∈ splitInclusive [] value, PlainWord x) : Plain value := by
  intro c hc
  rw [← List.nil_append value, ← List.reverse_nil, ← splitInclusive_flatten, List.mem_flatten] at hc
  obtain ⟨x, hx, hcx⟩ := hc
  exact allowed_plain x (h x hx).1 c hcx

/-- `C02.plain_value_unfolds_to_itself` -/
theorem unfold_encodeValue_plain (n : Nat) (value : Bytes) (h : ∀ x ∈ splitInclusive [] value, PlainWord x) :
    unfold (encodeValue opts n value) = value := by
  rw [encodeValue_plain n value h, out_flush]
  exact ((tight_start (n + 2)).shows.foldWrite value (plain_of_words value h)).view

/-- `p ␠ t`, the last word `t` without a space: the shape of a DKIM-Signature value, whose last word is the `b=` tag
    (`deleteB_canon`, `Proofs/DkimSig.lean`) -/
theorem encodeValue_last (n : Nat) (p t : Bytes) (ht : ∀ c ∈ t, c ≠ 32) (hne : t ≠ []) (hp : PlainWord t)
    (hws : ∀ x ∈ splitInclusive [] (p ++ [32]), PlainWord x) :
    ∃ w1, Inv w1 ∧ w1.view = p ++ [32] ∧ encodeValue opts n (p ++ 32 :: t) = w1.out ++ t := by
  have hall : ∀ x ∈ splitInclusive [] (p ++ 32 :: t), PlainWord x := by
    rw [splitInclusive_snoc p [] t ht hne]
    exact List.forall_mem_append.mpr ⟨hws, fun x hx => List.mem_singleton.mp hx ▸ hp⟩
  have h := (tight_start (n + 2)).shows.foldWrite (p ++ [32]) (plain_of_words _ hws)
  rw [encodeValue_plain n _ hall, out_flush, foldWrite, foldGo_append_sp, ← foldWrite, ← foldWrite]
  generalize foldWrite ⟨[], n + 2, 0, false⟩ (p ++ [32]) = w' at h ⊢
  rw [foldWrite_word ht w' hne]
  rcases emitTok_cases h.inv t with e | ⟨hn, hs, e⟩
  · exact ⟨w', h.inv, h.view, by rw [e, out_writeStr]⟩
  · exact ⟨w'.newLine, (h.newLine hn hs).inv, (h.newLine hn hs).view, by rw [e, out_writeStr]⟩

end LV.HeaderEnc
