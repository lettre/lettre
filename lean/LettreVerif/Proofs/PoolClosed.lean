import LettreVerif.Proofs.PoolLts
/-!
# A closed connection stays closed (C09)

No transition of the pool model re-opens a connection: whatever it does to an existing connection is `abortConn`,
`dropConn`, `probe` or `transact`, and none of them resets `closed`.  (A closed connection exists, `lt_of_closed`, so
nothing is said about its index.)
-/
namespace LV.PoolLts

theorem say_closed (k : Conn) (e : SEv) : (say k e).closed = k.closed := rfl

theorem probe_keeps (k : Conn) (h : k.closed = true) : (probe k).1.closed = true :=
  let ⟨_, p⟩ := probe_spec k
  p.closed.trans h

theorem transact_keeps (k : Conn) (i m : Nat) (h : k.closed = true) : (transact k i m).1.closed = true := by
  rcases transact_spec k i m with ⟨k', _, f⟩ | ⟨_, c⟩
  · rw [f.conn]; exact (abortConn_closed k').1
  · rw [c.closed, h]

section
variable {s : St} {c : Nat} (h : (getConn s c).closed = true)
include h

theorem closed_openConn : (getConn (openConn s).1 c).closed = true := by
  rw [getConn_openConn_ne s c (Nat.ne_of_lt (lt_of_closed h))]; exact h

theorem closed_sendOn (i d : Nat) : (getConn (sendOn s i d) c).closed = true := by
  rw [sendOn_eq, getConn_of_conns_eq (finishSend_frame ..).2.2]
  exact closed_updConn s c d _ (fun k => transact_keeps k _ _) h

theorem closed_recycleConn (d : Nat) : (getConn (recycleConn s d) c).closed = true :=
  recycleConn_cases (P := fun s' => (getConn s' c).closed = true) s d (closed_updConn s c d _ abortConn_keeps h) fun _ _ _ => h

theorem closed_maintContinue (more : Nat) (dropped : List Nat) : (getConn (maintContinue s more dropped) c).closed = true := by
  cases more with
  | zero => exact closed_foldl (fun d => d) _ abortConn_keeps dropped s c h
  | succ n => exact closed_openConn h

theorem closed_step {s' : St} {e : Ev} (hs : step s e = some s') : (getConn s' c).closed = true := by
  apply step_cases hs
  case shut | scanShut | wait => intros; exact h
  case fresh => intros; exact closed_sendOn (closed_openConn h) _ _
  case popOk =>
    intro _ _ d _ rest _ _ _ _
    exact closed_sendOn (closed_updConn { s with idle := some rest } c d _ probe_keeps h) _ _
  case popFail =>
    intro d _ rest _ _
    exact closed_updConn { s with idle := some rest } c d _ (fun _ _ => (abortConn_closed _).1) h
  case recycleTask => intro w d _; exact closed_recycleConn (s := { s with recyclers := s.recyclers.set w none }) h d
  case recycleSender => intro w _ d _ _; exact closed_recycleConn (s := updSender s w _) h d
  case scan => intro l _ _; exact closed_maintContinue (s := { s with idle := some (l.filter (!·.2)) }) h _ _
  case pushShut => intros; exact closed_foldl (fun d => d) _ (fun k _ => dropConn_closed k) _ s c h
  case pushFull => intros; exact closed_maintContinue (closed_updConn s c _ _ abortConn_keeps h) _ _
  case push => intro d _ _ l _ _ _; exact closed_maintContinue (s := { s with idle := some ((d, false) :: l) }) h _ _
  case shutdown =>
    unfold shutdownLock
    split
    · exact h
    · exact closed_foldl (fun p : Nat × Bool => p.1) _ abortConn_keeps _ { s with idle := none } c h

theorem closed_run (es : List Ev) {s' : St} (hr : run s es = some s') : (getConn s' c).closed = true :=
  run_inv (P := fun s => (getConn s c).closed = true) (fun _ _ _ h hs => closed_step h hs) es s s' h hr

end

end LV.PoolLts
