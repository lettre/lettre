import LettreVerif.Proofs.Rfc2047Enc
/-!
# `ContentType::display` (after `fix:` b49469c): `HeaderEnc.contentTypeValue`

Well-formedness and read-back; the size bound is with the others, `Proofs/FoldSize.lean`.
-/
namespace LV.HeaderEnc
open LV LV.HeaderReader

/-- `C02.content_type_wf` -/
theorem contentTypeValue_wf (raw : Bytes) (hu : ContRunsLe3 raw) : scan .norm (contentTypeValue raw) = some .norm := by
  unfold contentTypeValue
  split
  · rename_i h
    exact flush_norm (inv_foldWrite (.start _) raw (allowed_plain raw h))
  · exact encodeValue_wf true 12 raw hu

/-- `C11.content_type_written_literally`: tokens of the form `=?…?=` included -/
theorem contentTypeValue_literal (raw : Bytes) (h : raw.all (allowedChar true) = true) :
    unfold (contentTypeValue raw) = raw := by
  rw [contentTypeValue, if_pos h, out_flush]
  exact view_foldWrite (.start _) raw (allowed_plain raw h)

end LV.HeaderEnc
