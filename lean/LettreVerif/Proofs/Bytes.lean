import LettreVerif.Model.Bytes
/-!
# Facts about lists that several proof modules share, and a short cut for octets
-/
namespace LV

/-- a short cut: left to itself the search for this instance goes through the order classes first, in every proof
    that uses `beq_iff_eq` and the like on octets -/
instance : LawfulBEq Byte := inferInstance

theorem takeWhile_ne_append {s : Byte} {a : Bytes} (ha : ∀ c ∈ a, c ≠ s) (b : Bytes) :
    (a ++ s :: b).takeWhile (· != s) = a := by
  rw [List.takeWhile_append_of_pos fun c hc => bne_iff_ne.mpr (ha c hc),
    List.takeWhile_cons_of_neg (p := (· != s)) (Bool.eq_false_iff.mp (bne_self_eq_false s)), List.append_nil]

theorem dropWhile_ne_append {s : Byte} {a : Bytes} (ha : ∀ c ∈ a, c ≠ s) (b : Bytes) :
    (a ++ s :: b).dropWhile (· != s) = s :: b := by
  rw [List.dropWhile_append_of_pos fun c hc => bne_iff_ne.mpr (ha c hc),
    List.dropWhile_cons_of_neg (p := (· != s)) (Bool.eq_false_iff.mp (bne_self_eq_false s))]

theorem length_flatMap_le {α β : Type} {f : α → List β} {k : Nat} (h : ∀ a, (f a).length ≤ k) (l : List α) :
    (l.flatMap f).length ≤ k * l.length := by
  induction l with
  | nil => simp
  | cons a l ih =>
    have := h a
    rw [List.flatMap_cons, List.length_append, List.length_cons, Nat.mul_succ]
    omega

theorem length_le_flatMap {α β : Type} {f : α → List β} (h : ∀ a, f a ≠ []) (l : List α) :
    l.length ≤ (l.flatMap f).length := by
  induction l with
  | nil => simp
  | cons a l ih =>
    have := List.length_pos_iff.mpr (h a)
    rw [List.flatMap_cons, List.length_append, List.length_cons]
    omega

/-! ### a sum over a list one of whose entries changes -/

theorem sum_map_modify {α : Type} (g : α → Nat) (f : α → α) (l : List α) (c : Nat) (x : α) (h : l[c]? = some x) :
    ((l.modify c f).map g).sum + g x = (l.map g).sum + g (f x) := by
  induction l generalizing c with
  | nil => simp at h
  | cons a l ih =>
    cases c with
    | zero => simp at h; subst h; simp [List.modify]; omega
    | succ c =>
      simp at h
      simp only [List.modify_succ_cons, List.map_cons, List.sum_cons]
      have := ih c h
      omega

end LV
