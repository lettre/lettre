import LettreVerif.Proofs.FoldSize
import LettreVerif.Proofs.HeaderPlain
/-!
# Size of an encoded header value made of printable words (nothing needs an encoded-word)
-/
namespace LV.HeaderEnc
open LV

/-- `C19.plain_header_value_linear` -/
theorem encodeValue_plain_linear (n : Nat) (value : Bytes) (h : ∀ x ∈ splitInclusive [] value, PlainWord x) :
    (encodeValue opts n value).length ≤ 3 * value.length := by
  rw [encodeValue_plain n value h, flush_length]
  exact Nat.le_trans (size_foldWrite _ value) (Nat.le_of_eq (Nat.zero_add _))

end LV.HeaderEnc
