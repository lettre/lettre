import LettreVerif.Model.Mailbox
import LettreVerif.Proofs.Builder
/-!
# The mailbox grammar (Model/Peg.lean) reads back what `Display` writes

`Reads p K w v`: the parser `p`, run on `w` followed by any text that `K` admits, consumes exactly `w` and returns `v`;
the usual follow condition is `NoHead f r` (`r` does not start with a character of the class `f`).  A rule's lemma is the
composition of `Reads` facts that its definition spells out.  The top rules `mailbox`, `mailboxList`, `sepByF` are not
combinator terms (they end in `pend` or are a `match`) and are unfolded where they are used.  The results hold whatever
the display names, for the addresses of the class `GoodAddr`.
-/
namespace LV.PegProof
open LV LV.Peg LV.Mailbox

/-! ## combinators -/

theorem sat_cons (f : Char → Bool) (c : Char) (r : List Char) (h : f c = true) : sat f (c :: r) = some (c, r) := by
  simp [sat, h]

theorem sat_cons_false (f : Char → Bool) (c : Char) (r : List Char) (h : f c = false) : sat f (c :: r) = none := by
  simp [sat, h]

def NoHead (f : Char → Bool) (s : List Char) : Prop := ∀ c ∈ s.head?, f c = false

namespace NoHead
variable {f g : Char → Bool} {c : Char} {w r : List Char}

theorem nil : NoHead f [] := fun _ h => absurd h (Option.not_mem_none _)

theorem cons (h : f c = false) : NoHead f (c :: r) := by
  simpa [NoHead] using h

theorem head (h : NoHead f (c :: r)) : f c = false := h c rfl

theorem mono (h : NoHead f r) (hfg : ∀ c, f c = false → g c = false) : NoHead g r :=
  fun c hc => hfg c (h c hc)

theorem append (r : List Char) (hne : w ≠ []) (hw : ∀ c ∈ w, f c = false) : NoHead f (w ++ r) := by
  cases w with
  | nil => exact absurd rfl hne
  | cons c w => exact cons (hw c List.mem_cons_self)

theorem append_right (r : List Char) (hne : w ≠ []) (h : NoHead f w) : NoHead f (w ++ r) := by
  cases w with
  | nil => exact absurd rfl hne
  | cons c w => exact h

end NoHead

theorem sat_noHead {f : Char → Bool} {s : List Char} (h : NoHead f s) : sat f s = none := by
  cases s with
  | nil => rfl
  | cons c r => exact sat_cons_false f c r h.head

theorem pmap_none {α β : Type} {p : Parser α} {s : List Char} (f : α → β) (h : p s = none) : pmap f p s = none := by
  simp only [pmap, h, Option.map_none]

theorem seq_none_left {α β : Type} {p : Parser α} (q : Parser β) {s : List Char} (h : p s = none) : seq p q s = none := by
  simp only [seq, h]

theorem manyF_fuel {α : Type} (p : Parser α) (f g : Nat) (s : List Char) (hf : s.length < f) (hg : s.length < g) :
    manyF p f s = manyF p g s := by
  induction f generalizing g s with
  | zero => cases hf
  | succ f ih =>
    cases g with
    | zero => cases hg
    | succ g =>
      unfold manyF
      cases p s with
      | none => rfl
      | some x =>
        dsimp only
        split
        · -- the rest is shorter than the text, which is shorter than either amount of fuel
          rename_i h
          rw [ih g _ (Nat.lt_of_lt_of_le h (Nat.le_of_lt_succ hf)) (Nat.lt_of_lt_of_le h (Nat.le_of_lt_succ hg))]
        · rfl

theorem manyF_step {α : Type} (p : Parser α) (f : Nat) (s r : List Char) (a : α) (h : p s = some (a, r))
    (hl : r.length < s.length) : manyF p (f + 1) s = (manyF p f r).map fun (as, r') => (a :: as, r') := by
  simp [manyF, h, hl]

theorem manyF_stop {α : Type} (p : Parser α) (f : Nat) (s : List Char) (h : p s = none) :
    manyF p (f + 1) s = some ([], s) := by
  simp [manyF, h]

theorem many_stop {α : Type} {p : Parser α} {s : List Char} (h : p s = none) : many p s = some ([], s) :=
  manyF_stop p _ s h

theorem many_step {α : Type} {p : Parser α} {s r : List Char} {a : α} (h : p s = some (a, r)) (hl : r.length < s.length) :
    many p s = (many p r).map fun (as, r') => (a :: as, r') := by
  rw [many, manyF_step p _ s r a h hl, manyF_fuel p s.length (r.length + 1) r hl (Nat.lt_succ_self _)]
  rfl

theorem many1_stop {α : Type} {p : Parser α} {s : List Char} (h : p s = none) : many1 p s = none := by
  simp only [many1, many_stop h]

def Reads {α : Type} (p : Parser α) (K : List Char → Prop) (w : List Char) (v : α) : Prop :=
  ∀ r, K r → p (w ++ r) = some (v, r)

def Any : List Char → Prop := fun _ => True

namespace Reads
variable {α β : Type} {p : Parser α} {q : Parser β} {K K' : List Char → Prop} {a b : List Char} {x : α} {y : β}

theorem mono (hp : Reads p K a x) (h : ∀ r, K' r → K r) : Reads p K' a x := fun r hr => hp r (h r hr)

theorem seq (hp : Reads p K' a x) (hq : Reads q K b y) (h : ∀ r, K r → K' (b ++ r)) :
    Reads (seq p q) K (a ++ b) (x, y) := by
  intro r hr
  simp only [Peg.seq, List.append_assoc, hp _ (h r hr), hq r hr]

theorem seq_any (hp : Reads p Any a x) (hq : Reads q K b y) : Reads (Peg.seq p q) K (a ++ b) (x, y) :=
  hp.seq hq fun _ _ => trivial

theorem seq_none {r : List Char} (hp : Reads p K a x) (hr : K r) (hq : q r = none) : Peg.seq p q (a ++ r) = none := by
  simp only [Peg.seq, hp r hr, hq]

theorem pmap (f : α → β) (hp : Reads p K a x) : Reads (pmap f p) K a (f x) := by
  intro r hr
  simp only [Peg.pmap, hp r hr, Option.map_some]

theorem alt_left {q : Parser α} (hp : Reads p K a x) : Reads (alt p q) K a x := by
  intro r hr
  simp only [alt, hp r hr]

theorem alt_right {p q : Parser α} (hp : ∀ r, K r → p (a ++ r) = none) (hq : Reads q K a x) : Reads (alt p q) K a x := by
  intro r hr
  simp only [alt, hp r hr, hq r hr]

theorem opt_some (hp : Reads p K a x) : Reads (opt p) K a (some x) := by
  intro r hr
  simp only [opt, hp r hr]

theorem opt_none (hp : ∀ r, K r → p r = none) : Reads (opt p) K [] none := by
  intro r hr
  simp only [opt, List.nil_append, hp r hr]

theorem many_nil (hp : ∀ r, K r → p r = none) : Reads (many p) K [] [] :=
  fun r hr => many_stop (hp r hr)

theorem many_cons {t : List Char} {xs : List α} (hp : Reads p K' a x) (ha : a ≠ []) (hm : Reads (many p) K t xs)
    (h : ∀ r, K r → K' (t ++ r)) : Reads (many p) K (a ++ t) (x :: xs) := by
  intro r hr
  have hl : (t ++ r).length < (a ++ (t ++ r)).length := by
    rw [List.length_append (as := a)]
    exact Nat.lt_add_of_pos_left (List.length_pos_iff.mpr ha)
  rw [List.append_assoc, many_step (hp _ (h r hr)) hl, hm r hr]
  rfl

theorem many_cons_any {t : List Char} {xs : List α} (hp : Reads p Any a x) (ha : a ≠ []) (hm : Reads (many p) K t xs) :
    Reads (many p) K (a ++ t) (x :: xs) :=
  hp.many_cons ha hm fun _ _ => trivial

theorem many1 {xs : List α} (hm : Reads (many p) K a xs) (hne : xs ≠ []) : Reads (many1 p) K a xs := by
  intro r hr
  cases xs with
  | nil => exact absurd rfl hne
  | cons x xs => simp only [Peg.many1, hm r hr]

end Reads

theorem sat_reads {f : Char → Bool} {c : Char} (h : f c = true) : Reads (sat f) Any [c] c :=
  fun r _ => sat_cons f c r h

theorem just_reads (c : Char) : Reads (just c) Any [c] c := sat_reads (beq_self_eq_true c)

theorem just_fail {c : Char} {s : List Char} (h : NoHead (· == c) s) : just c s = none := sat_noHead h

theorem many_sat (f : Char → Bool) (u : List Char) (h : ∀ c ∈ u, f c = true) : Reads (many (sat f)) (NoHead f) u u := by
  induction u with
  | nil => exact .many_nil fun _ => sat_noHead
  | cons c u ih =>
    obtain ⟨hc, hu⟩ := List.forall_mem_cons.mp h
    exact .many_cons_any (a := [c]) (sat_reads hc) (List.cons_ne_nil _ _) (ih hu)

theorem many1_sat (f : Char → Bool) (u : List Char) (hne : u ≠ []) (hu : ∀ c ∈ u, f c = true) :
    Reads (many1 (sat f)) (NoHead f) u u :=
  (many_sat f u hu).many1 hne

/-! ## character classes -/

theorem wsp_cases {c : Char} (h : isWsp c = true) : c = ' ' ∨ c = '\t' := by
  simpa [isWsp] using h

theorem wsp_not_atext (c : Char) (h : isWsp c = true) : isAtext c = false := by
  rcases wsp_cases h with rfl | rfl <;> decide

theorem quote_not_atext : isAtext '"' = false := by decide

theorem atext_not_wsp (c : Char) (h : isAtext c = true) : isWsp c = false :=
  Bool.eq_false_iff.mpr fun hw => Bool.false_ne_true ((wsp_not_atext c hw).symm.trans h)

theorem wsp_uws (c : Char) (h : isWsp c = true) : isUWs c = true := by
  rcases wsp_cases h with rfl | rfl <;> decide

theorem not_uws_not_wsp (x : Char) (h : isUWs x = false) : isWsp x = false :=
  Bool.eq_false_iff.mpr fun hw => Bool.false_ne_true (h.symm.trans (wsp_uws x hw))

theorem ne_of_class {f : Char → Bool} {c : Char} (d : Char) (hc : f c = true) (hd : f d = false) : (c == d) = false :=
  beq_false_of_ne (by rintro rfl; rw [hc] at hd; cases hd)

/-! ## white space, atoms -/

theorem fws_run (w : List Char) (hw : ∀ c ∈ w, isWsp c = true) : Reads fws (NoHead isWsp) w w.head? := by
  cases w with
  | nil => exact ((Reads.opt_none fun _ => sat_noHead).seq (many_sat isWsp [] hw) fun _ h => h).pmap _
  | cons c w =>
    obtain ⟨hc, hw⟩ := List.forall_mem_cons.mp hw
    exact ((sat_reads hc).opt_some.seq_any (many_sat isWsp w hw)).pmap _

theorem uws_run (w : List Char) (hw : ∀ c ∈ w, isUWs c = true) : Reads uws (NoHead isUWs) w () :=
  (many_sat isUWs w hw).pmap _

theorem padded_reads {α : Type} {p : Parser α} {K K' : List Char → Prop} {a : List Char} {x : α} (w1 w2 : List Char)
    (h1 : ∀ c ∈ w1, isUWs c = true) (h2 : ∀ c ∈ w2, isUWs c = true) (hp : Reads p K' a x) (hne : a ≠ [])
    (ha : NoHead isUWs a) (hK : ∀ r, K r → NoHead isUWs r ∧ K' (w2 ++ r)) : Reads (padded p) K (w1 ++ a ++ w2) x :=
  (((uws_run w1 h1).seq hp fun r _ => ha.append_right r hne).seq ((uws_run w2 h2).mono fun r hr => (hK r hr).1)
    fun r hr => (hK r hr).2).pmap _

theorem padded_fail {α : Type} {p : Parser α} {r : List Char} (hr : NoHead isUWs r) (hp : p r = none) : padded p r = none :=
  pmap_none _ (seq_none_left _ ((uws_run [] (List.forall_mem_nil _)).seq_none hr hp))

theorem atom_run (w a : List Char) (hw : ∀ c ∈ w, isWsp c = true) (ha : ∀ c ∈ a, isAtext c = true) (hne : a ≠ []) :
    Reads atom (NoHead isAtext) (w ++ a) (optToList w.head? ++ a) :=
  ((fws_run w hw).seq (many1_sat isAtext a hne ha) fun r _ => .append r hne fun c hc => atext_not_wsp c (ha c hc)).pmap _

theorem atom_fail (w : List Char) {r : List Char} (hw : ∀ c ∈ w, isWsp c = true) (hr : NoHead (fun c => isAtext c || isWsp c) r) :
    atom (w ++ r) = none :=
  pmap_none _ ((fws_run w hw).seq_none (hr.mono fun _ h => (Bool.or_eq_false_iff.mp h).2)
    (many1_stop (sat_noHead (hr.mono fun _ h => (Bool.or_eq_false_iff.mp h).1))))

theorem quotedString_fail {s : List Char} (h : NoHead (· == '"') s) : quotedString opts s = none :=
  pmap_none _ (seq_none_left _ (seq_none_left _ (seq_none_left _ (just_fail h))))

theorem word_atom (w a : List Char) (hw : ∀ c ∈ w, isWsp c = true) (ha : ∀ c ∈ a, isAtext c = true) (hne : a ≠ []) :
    Reads (word opts) (NoHead isAtext) (w ++ a) (optToList w.head? ++ a) :=
  .alt_right (fun r _ => quotedString_fail (.append r (List.append_ne_nil_of_right_ne_nil w hne) fun c hc =>
      (List.mem_append.mp hc).elim (fun hc => ne_of_class '"' (hw c hc) (by decide))
        fun hc => ne_of_class '"' (ha c hc) quote_not_atext))
    (atom_run w a hw ha hne)

theorem word_atext {a : List Char} (ha : ∀ c ∈ a, isAtext c = true) (hne : a ≠ []) : Reads (word opts) (NoHead isAtext) a a :=
  word_atom [] a (List.forall_mem_nil _) ha hne

/-! ## what is read back for a name -/

/-- every run of SP / HTAB reduced to its first character (`p`: the previous character was a blank) -/
def cfg : Bool → List Char → List Char
  | _, [] => []
  | p, c :: r => if isWsp c then (if p then cfg true r else c :: cfg true r) else c :: cfg false r

theorem cfg_cons_nows (p : Bool) (c : Char) (r : List Char) (h : isWsp c = false) : cfg p (c :: r) = c :: cfg false r := by
  simp [cfg, h]

theorem cfg_ws_true (w r : List Char) (h : ∀ c ∈ w, isWsp c = true) : cfg true (w ++ r) = cfg true r := by
  induction w with
  | nil => rfl
  | cons c w ih =>
    obtain ⟨hc, hw⟩ := List.forall_mem_cons.mp h
    simp only [List.cons_append, cfg, hc, if_true]
    exact ih hw

theorem cfg_nows (a r : List Char) (h : ∀ c ∈ a, isWsp c = false) : cfg false (a ++ r) = a ++ cfg false r := by
  induction a with
  | nil => rfl
  | cons c a ih =>
    obtain ⟨hc, ha⟩ := List.forall_mem_cons.mp h
    rw [List.cons_append, cfg_cons_nows false c _ hc, ih ha]
    rfl

theorem cfg_ws (w r : List Char) (hw : ∀ c ∈ w, isWsp c = true) (hr : NoHead isWsp r) :
    cfg false (w ++ r) = optToList w.head? ++ cfg false r := by
  cases w with
  | nil => rfl
  | cons c w =>
    obtain ⟨hc, hw⟩ := List.forall_mem_cons.mp hw
    have hpr : cfg true r = cfg false r := by
      cases r with
      | nil => rfl
      | cons x r' => rw [cfg_cons_nows true x r' hr.head, cfg_cons_nows false x r' hr.head]
    simp only [List.cons_append, cfg, hc, if_true, Bool.false_eq_true, if_false, List.head?_cons, optToList]
    rw [cfg_ws_true w r hw, hpr]
    rfl

theorem cfg_item (w a r : List Char) (hw : ∀ c ∈ w, isWsp c = true) (hne : a ≠ []) (ha : ∀ c ∈ a, isWsp c = false) :
    cfg false (w ++ a ++ r) = optToList w.head? ++ a ++ cfg false r := by
  rw [List.append_assoc, cfg_ws w _ hw (.append r hne ha), cfg_nows a r ha, List.append_assoc]

/-! ## the quoted form of a name -/

/-- a content unit of a quoted string and the character it stands for -/
inductive QUnit : List Char → Char → Prop
  | self (c : Char) : (isQtext c || nonAscii c) = true → QUnit [c] c
  | pair (c : Char) : isText true c = true → isWsp c = false → QUnit ['\\', c] c

theorem qcontent_unit {k : List Char} {c : Char} (h : QUnit k c) : Reads (qcontent opts) Any k c := by
  cases h with
  | self _ hc =>
    by_cases hq : isQtext c = true
    · exact (sat_reads hq).alt_left
    · have hn : nonAscii c = true := by simpa [hq] using hc
      -- not qtext, not a backslash (a backslash is ASCII), non-ASCII
      refine .alt_right (fun r _ => sat_cons_false _ c r (by simpa using hq)) (.alt_right (fun r _ => ?_) (sat_reads hn))
      exact pmap_none _ (seq_none_left _ (sat_cons_false _ c r (ne_of_class '\\' hn (by decide))))
  | pair _ hc _ =>
    exact .alt_right (fun r _ => sat_cons_false _ _ _ (by decide))
      (((just_reads '\\').seq_any (sat_reads hc)).pmap _).alt_left

theorem unit_char_not_wsp {k : List Char} {c : Char} (h : QUnit k c) : isWsp c = false := by
  cases h with
  | self _ hc => exact Bool.eq_false_iff.mpr fun hw => by rcases wsp_cases hw with rfl | rfl <;> exact absurd hc (by decide)
  | pair _ _ hw => exact hw

theorem unit_head_not_wsp {k : List Char} {c : Char} (h : QUnit k c) (r : List Char) : NoHead isWsp (k ++ r) := by
  have hc := unit_char_not_wsp h
  cases h with
  | self _ _ => exact .cons hc
  | pair _ _ _ => exact .cons (by decide)

theorem unit_ne {k : List Char} {c : Char} (h : QUnit k c) : k ≠ [] := by cases h <;> simp

/-- the item of `quotedString`'s loop, which Model/Peg.lean writes inline (as it does the three other loop items) -/
def qitem : Parser (List Char) := pmap (fun (w, c) => optToList w ++ [c]) (seq fws (qcontent opts))

theorem qitem_unit {w k : List Char} {c : Char} (hw : ∀ c ∈ w, isWsp c = true) (hk : QUnit k c) :
    Reads qitem Any (w ++ k) (optToList w.head? ++ [c]) :=
  ((fws_run w hw).seq (qcontent_unit hk) fun r _ => unit_head_not_wsp hk r).pmap _

theorem qitem_stop (w rest : List Char) (hw : ∀ c ∈ w, isWsp c = true) : qitem (w ++ '"' :: rest) = none := by
  have hq : qcontent opts ('"' :: rest) = none := by
    simp [qcontent, alt, sat, quotedPair, pmap, seq, just, show isQtext '"' = false by decide, show nonAscii '"' = false by decide]
  exact pmap_none _ ((fws_run w hw).seq_none (.cons (c := '"') (by decide)) hq)

/-- the inside of a quoted string up to its last content unit (each unit after any white space), and the text it
    stands for -/
inductive QBody : List Char → List Char → Prop
  | nil : QBody [] []
  | unit (w k : List Char) (c : Char) (b s : List Char) : (∀ c ∈ w, isWsp c = true) → QUnit k c → QBody b s →
      QBody (w ++ k ++ b) (w ++ [c] ++ s)

theorem many_qitem {b s : List Char} (hb : QBody b s) :
    ∃ xs, xs.flatten = cfg false s ∧ Reads (many qitem) (qitem · = none) b xs := by
  induction hb with
  | nil => exact ⟨[], rfl, .many_nil fun _ h => h⟩
  | unit w k c b s hw hk _ ih =>
    obtain ⟨xs, hfl, hm⟩ := ih
    refine ⟨_ :: xs, ?_, .many_cons_any (qitem_unit hw hk) (List.append_ne_nil_of_right_ne_nil w (unit_ne hk)) hm⟩
    rw [cfg_item w [c] s hw (List.cons_ne_nil _ _) (List.forall_mem_singleton.mpr (unit_char_not_wsp hk)), List.flatten_cons, hfl]

theorem quotedString_body {b s w : List Char} (hb : QBody b s) (hw : ∀ c ∈ w, isWsp c = true) :
    Reads (quotedString opts) Any ('"' :: b ++ w ++ ['"']) (cfg false s) := by
  obtain ⟨xs, hfl, hm⟩ := many_qitem hb
  -- what follows the body: the blanks and the closing quote, where no item starts
  have hu : Reads uws (fun r => ∃ r', r = '"' :: r') w () :=
    (uws_run w fun c hc => wsp_uws c (hw c hc)).mono fun _ ⟨_, hr⟩ => hr ▸ .cons (by decide)
  have := ((((just_reads '"').seq_any hm).seq hu fun _ ⟨r', hr⟩ => hr ▸ qitem_stop w r' hw).seq
    (just_reads '"') fun r _ => ⟨r, rfl⟩).pmap fun (((_, xs), _), _) => xs.flatten
  rw [← hfl]; exact this

theorem qbody_cons_ws (c : Char) (b s : List Char) (hc : isWsp c = true) (hb : QBody b s) (hne : s ≠ []) :
    QBody (c :: b) (c :: s) := by
  cases hb with
  | nil => exact absurd rfl hne
  | unit w0 k c0 b' s' hw hk hb' => exact .unit (c :: w0) k c0 b' s' (List.forall_mem_cons.mpr ⟨hc, hw⟩) hk hb'

theorem isText_ascii (c : Char) (h : c.toNat < 128) : isText true c = true := by
  simp only [isText, Bool.or_eq_true, Bool.and_eq_true, decide_eq_true_eq, beq_iff_eq, true_and]
  omega

theorem esc_shape (c : Char) : (Builder.esc c = [c] ∧ isWsp c = true) ∨ QUnit (Builder.esc c) c := by
  unfold Builder.esc
  cases hw : isWsp c with
  | true => exact .inl ⟨rfl, rfl⟩
  | false =>
    cases hq : (isQtext c || nonAscii c) with
    | true => exact .inr (.self c hq)
    | false =>
      -- ASCII, neither a blank nor qtext: a quoted-pair
      have : ¬ 128 ≤ c.toNat := by simpa [nonAscii] using (Bool.or_eq_false_iff.mp hq).2
      exact .inr (.pair c (isText_ascii c (Nat.lt_of_not_le this)) hw)

theorem getLast?_tail {c x : Char} {r : List Char} (h : r.getLast? = some x) : (c :: r).getLast? = some x := by
  rw [List.getLast?_cons, h]; rfl

theorem qbody_of_name (s : List Char) (hl : ∀ x ∈ s.getLast?, isWsp x = false) : QBody (s.map Builder.esc).flatten s := by
  induction s with
  | nil => exact .nil
  | cons c r ih =>
    have hb := ih fun x hx => hl x (getLast?_tail hx)
    rw [List.map_cons, List.flatten_cons]
    rcases esc_shape c with ⟨h, hw⟩ | hu
    · rw [h]
      refine qbody_cons_ws c _ r hw hb ?_
      rintro rfl
      rw [hl c rfl] at hw; cases hw
    · -- `esc c` as a variable: the unifier would open it to compute `[] ++ esc c`
      generalize Builder.esc c = k at hu ⊢
      exact .unit [] k c _ r (List.forall_mem_nil _) hu hb

theorem quoted_name_read_back (s : List Char) (hl : ∀ x ∈ s.getLast?, isWsp x = false) :
    Reads (quotedString opts) Any ('"' :: (s.map Builder.esc).flatten ++ ['"']) (cfg false s) := by
  simpa using quotedString_body (w := []) (qbody_of_name s hl) (List.forall_mem_nil _)

/-! ## a name written as atoms -/

/-- what follows the first atom of a name: white space and an atom, any number of times -/
inductive ATail : List Char → Prop
  | nil : ATail []
  | cons (w a t : List Char) : w ≠ [] → (∀ c ∈ w, isWsp c = true) → a ≠ [] → (∀ c ∈ a, isAtext c = true) → ATail t →
      ATail (w ++ a ++ t)

theorem atail_next {t r : List Char} (ht : ATail t) (hr : NoHead isAtext r) : NoHead isAtext (t ++ r) := by
  cases ht with
  | nil => exact hr
  | cons w a t' hwne hw _ _ _ =>
    rw [List.append_assoc, List.append_assoc]
    exact .append _ hwne fun c hc => wsp_not_atext c (hw c hc)

/-- the item of `obsPhrase`'s loop -/
def wordOrDot : Parser (List Char) := alt (word opts) (pmap (fun c => [c]) (just '.'))

/-- where a phrase ends: no further word or dot starts, and a last atom would not go on -/
def PhraseEnd (r : List Char) : Prop := wordOrDot r = none ∧ NoHead isAtext r

theorem many_words {t : List Char} (ht : ATail t) :
    ∃ xs, xs.flatten = cfg false t ∧ Reads (many wordOrDot) PhraseEnd t xs := by
  induction ht with
  | nil => exact ⟨[], rfl, .many_nil fun _ h => h.1⟩
  | cons w a t hwne hw hane ha ht ih =>
    obtain ⟨xs, hfl, hm⟩ := ih
    refine ⟨_ :: xs, ?_, .many_cons (word_atom w a hw ha hane).alt_left (List.append_ne_nil_of_right_ne_nil w hane) hm
      fun r hr => atail_next ht hr.2⟩
    rw [cfg_item w a t hw hane fun c hc => atext_not_wsp c (ha c hc), List.flatten_cons, hfl]

theorem name_decomp (s : List Char) (hall : ∀ c ∈ s, isAtext c = true ∨ isWsp c = true)
    (hl : ∀ x ∈ s.getLast?, isWsp x = false) : ∃ a t, s = a ++ t ∧ (∀ c ∈ a, isAtext c = true) ∧ ATail t := by
  induction s with
  | nil => exact ⟨[], [], rfl, List.forall_mem_nil _, .nil⟩
  | cons c s ih =>
    obtain ⟨hc, hs⟩ := List.forall_mem_cons.mp hall
    obtain ⟨a, t, rfl, ha, ht⟩ := ih hs fun x hx => hl x (getLast?_tail hx)
    rcases hc with hc | hc
    · exact ⟨c :: a, t, rfl, List.forall_mem_cons.mpr ⟨hc, ha⟩, ht⟩
    · -- a blank: it stands before the atom `a`, or joins the blanks before the first atom of the tail
      refine ⟨[], c :: (a ++ t), rfl, (List.forall_mem_nil _), ?_⟩
      by_cases hane : a = []
      · subst hane
        cases ht with
        | nil => rw [hl c rfl] at hc; cases hc
        | cons w a' t' hwne hw hane' ha' ht' =>
          exact .cons (c :: w) a' t' (List.cons_ne_nil _ _) (List.forall_mem_cons.mpr ⟨hc, hw⟩) hane' ha' ht'
      · exact .cons [c] a t (List.cons_ne_nil _ _) (List.forall_mem_singleton.mpr hc) hane ha ht

theorem phrase_atoms {a t : List Char} (hane : a ≠ []) (ha : ∀ c ∈ a, isAtext c = true) (ht : ATail t) :
    Reads (phrase opts) PhraseEnd (a ++ t) (cfg false (a ++ t)) := by
  obtain ⟨xs, hfl, hm⟩ := many_words ht
  rw [cfg_nows a t fun c hc => atext_not_wsp c (ha c hc), ← hfl]
  exact (((word_atext ha hane).seq hm fun r hr => atail_next ht hr.2).pmap _).alt_left

theorem phrase_quoted {q v : List Char} (hq : Reads (quotedString opts) Any q v) : Reads (phrase opts) PhraseEnd q v := by
  rw [← List.append_nil q, ← List.append_nil v]
  exact ((hq.alt_left.seq_any (.many_nil fun _ h => h.1)).pmap _).alt_left

theorem word_fail (w : List Char) {r : List Char} (hw : ∀ c ∈ w, isWsp c = true) (hr : NoHead (fun c => isAtext c || isWsp c) r)
    (hq : NoHead (· == '"') (w ++ r)) : word opts (w ++ r) = none := by
  simp only [word, alt, quotedString_fail hq, atom_fail w hw hr]

theorem wordOrDot_fail {s : List Char} (hw : word opts s = none) (hd : NoHead (· == '.') s) : wordOrDot s = none := by
  simp only [wordOrDot, alt, hw, pmap_none _ (just_fail hd)]

/-- the ` <` that `Display for Mailbox` writes after a name ends the phrase -/
theorem phraseEnd_angle (rest : List Char) : PhraseEnd (' ' :: '<' :: rest) :=
  ⟨wordOrDot_fail (word_fail [' '] (List.forall_mem_singleton.mpr (by decide)) (.cons (c := '<') (by decide))
      (.cons (by decide))) (.cons (by decide)), .cons (wsp_not_atext ' ' (by decide))⟩

theorem phraseEnd_at (rest : List Char) : PhraseEnd ('@' :: rest) :=
  ⟨wordOrDot_fail (word_fail [] (List.forall_mem_nil _) (.cons (c := '@') (by decide)) (.cons (by decide)))
    (.cons (by decide)), .cons (by decide)⟩

/-! ## `trim` -/

theorem noHead_dropWhile (f : Char → Bool) (l : List Char) : NoHead f (l.dropWhile f) := by
  intro c hc
  have := List.head?_dropWhile_not f l
  rw [hc] at this
  simpa using this

theorem trim_ends (s : List Char) : NoHead isUWs (trim s) ∧ ∀ x ∈ (trim s).getLast?, isUWs x = false := by
  constructor
  · -- the trimmed text is a prefix of what is left when the leading white space is dropped
    have hd := noHead_dropWhile isUWs s
    have : s.dropWhile isUWs = trim s ++ ((s.dropWhile isUWs).reverse.takeWhile isUWs).reverse := by
      rw [trim, ← List.reverse_append, List.takeWhile_append_dropWhile, List.reverse_reverse]
    intro c hc
    exact hd c (by rw [this, List.head?_append, hc]; rfl)
  · rw [trim, List.getLast?_reverse]
    exact noHead_dropWhile isUWs _

theorem dropWhile_noHead {f : Char → Bool} {s : List Char} (h : NoHead f s) : s.dropWhile f = s := by
  cases s with
  | nil => rfl
  | cons c r => simp [h.head]

theorem trim_eq_self (s : List Char) (h1 : NoHead isUWs s) (h2 : ∀ x ∈ s.getLast?, isUWs x = false) : trim s = s := by
  rw [trim, dropWhile_noHead h1, dropWhile_noHead (by intro c hc; exact h2 c (by rwa [List.head?_reverse] at hc)),
    List.reverse_reverse]

/-! ## every display name -/

theorem ascii_atom_table : ∀ n : Fin 128, validAtomByte n.val = true →
    (isAtext (Char.ofNat n.val) = true ∨ isWsp (Char.ofNat n.val) = true) := by decide +kernel

theorem validAtom_atext_or_wsp (c : Char) (h : validAtomChar c = true) : isAtext c = true ∨ isWsp c = true := by
  simp only [validAtomChar] at h
  by_cases hc : c.toNat < 128
  · simp only [hc, if_true] at h
    have := ascii_atom_table ⟨c.toNat, hc⟩ h
    simpa [Char.ofNat_toNat] using this
  · left
    rw [isAtext, show nonAscii c = true from decide_eq_true (Nat.le_of_not_lt hc), Bool.or_true]

theorem display_name_reads (n : List Char) (hne : trim n ≠ []) :
    Reads (phrase opts) PhraseEnd (Builder.wordText (trim n)) (cfg false (trim n)) := by
  obtain ⟨hhead, hlast⟩ := trim_ends n
  have hlastw : ∀ x ∈ (trim n).getLast?, isWsp x = false := fun x hx => not_uws_not_wsp x (hlast x hx)
  unfold Builder.wordText
  split
  · rename_i hall
    obtain ⟨a, t, e, ha, ht⟩ := name_decomp _ (fun c hc => validAtom_atext_or_wsp c (List.all_eq_true.mp hall c hc)) hlastw
    rw [e] at hhead hne ⊢
    refine phrase_atoms ?_ ha ht
    rintro rfl
    -- the name would start with the blank that starts the tail
    cases ht with
    | nil => exact hne rfl
    | cons w a' t' hwne hw _ _ _ =>
      obtain ⟨x, w', rfl⟩ := List.exists_cons_of_ne_nil hwne
      have := hhead.head
      rw [wsp_uws x (hw x List.mem_cons_self)] at this; cases this
  · exact phrase_quoted (quoted_name_read_back _ hlastw)

theorem display_name_read_back (n rest : List Char) (hne : trim n ≠ []) :
    ∃ t, writeWord true (trim n) = some t ∧
      phrase opts (t ++ ' ' :: '<' :: rest) = some (cfg false (trim n), ' ' :: '<' :: rest) :=
  ⟨_, Builder.writeWord_eq _, display_name_reads n hne _ (phraseEnd_angle rest)⟩

/-! ## dot-atom addresses -/

inductive DTail : List Char → Prop
  | nil : DTail []
  | cons (a t : List Char) : a ≠ [] → (∀ c ∈ a, isAtext c = true) → DTail t → DTail ('.' :: a ++ t)

/-- what may follow a dot-atom: nothing, or a character that is neither atext nor a dot -/
def StopD : List Char → Prop := NoHead fun c => isAtext c || c == '.'

namespace StopD
variable {r : List Char}
theorem atext (h : StopD r) : NoHead isAtext r := h.mono fun _ hc => (Bool.or_eq_false_iff.mp hc).1
theorem dot (h : StopD r) : NoHead (· == '.') r := h.mono fun _ hc => (Bool.or_eq_false_iff.mp hc).2
end StopD

/-- the item of `dotAtomText`'s loop -/
def dotGroup : Parser (List Char) := pmap (fun (d, a) => d :: a) (seq (just '.') (many1 atext))

theorem dtail_next {t r : List Char} (ht : DTail t) (hr : NoHead isAtext r) : NoHead isAtext (t ++ r) := by
  cases ht with
  | nil => exact hr
  | cons a t' _ _ _ => exact .cons (by decide)

theorem dotted_stop {α : Type} (q : Parser α) (f : Char × α → List Char) {r : List Char} (hr : StopD r) :
    pmap f (seq (just '.') q) r = none :=
  pmap_none _ (seq_none_left _ (just_fail hr.dot))

theorem many_dotGroups {t : List Char} (ht : DTail t) : ∃ gs, gs.flatten = t ∧ Reads (many dotGroup) StopD t gs := by
  induction ht with
  | nil => exact ⟨[], rfl, .many_nil fun _ => dotted_stop _ _⟩
  | cons a t hane ha ht ih =>
    obtain ⟨gs, rfl, hm⟩ := ih
    have hg : Reads dotGroup (NoHead isAtext) ('.' :: a) ('.' :: a) :=
      ((just_reads '.').seq_any (many1_sat isAtext a hane ha)).pmap _
    exact ⟨('.' :: a) :: gs, rfl, .many_cons hg (List.cons_ne_nil _ _) hm fun r hr => dtail_next ht hr.atext⟩

/-- an atext run, then any number of `.atext+` groups.  `Peg.dotAtom` wants at least one group; a run without a dot is
    read by `obsLocalPart` / `obsDomain` instead (`dotAtom_or_obs`) -/
structure DotAtom (u : List Char) : Prop where
  split : ∃ a t, u = a ++ t ∧ a ≠ [] ∧ (∀ c ∈ a, isAtext c = true) ∧ DTail t

theorem quotedStringRaw_fail {s : List Char} (h : NoHead (· == '"') s) : quotedStringRaw opts s = none :=
  pmap_none _ (seq_none_left _ (seq_none_left _ (just_fail h)))

theorem dotAtom_or_obs {u : List Char} (hu : DotAtom u) :
    Reads (localPart opts) StopD u u ∧ Reads (domain opts) StopD u u := by
  obtain ⟨a, t, rfl, hane, ha, ht⟩ := hu.split
  obtain ⟨gs, rfl, hgs⟩ := many_dotGroups ht
  have hfws : Reads fws (NoHead isWsp) [] none := fws_run [] (List.forall_mem_nil _)
  have hm1 := many1_sat isAtext a hane ha
  have hnw (r : List Char) : NoHead isWsp (a ++ r) := .append r hane fun c hc => atext_not_wsp c (ha c hc)
  cases gs with
  | nil =>
    -- no dot: `dotAtom` fails; the obsolete forms (word / atom, then no `.word` group) read it
    rw [List.flatten_nil, List.append_nil]
    have hdat (r : List Char) (hr : StopD r) : dotAtom (a ++ r) = none :=
      pmap_none _ (hfws.seq_none (hnw r) (pmap_none _ (hm1.seq_none hr.atext (many1_stop (dotted_stop _ _ hr)))))
    have hobsl : Reads (obsLocalPart opts) StopD (a ++ []) (a ++ []) :=
      ((word_atext ha hane).seq (.many_nil fun _ => dotted_stop _ _) fun r hr => hr.atext).pmap _
    have hobsd : Reads obsDomain StopD (a ++ []) (a ++ []) :=
      ((atom_run [] a (List.forall_mem_nil _) ha hane).seq (.many_nil fun _ => dotted_stop _ _) fun r hr => hr.atext).pmap _
    rw [List.append_nil] at hobsl hobsd
    exact ⟨.alt_right hdat (.alt_right (fun r _ => quotedStringRaw_fail
        (.append r hane fun c hc => ne_of_class '"' (ha c hc) quote_not_atext)) hobsl), .alt_right hdat hobsd.alt_left⟩
  | cons g gs =>
    have hdat : Reads dotAtom StopD (a ++ (g :: gs).flatten) (a ++ (g :: gs).flatten) :=
      (hfws.seq ((hm1.seq (hgs.many1 (List.cons_ne_nil _ _)) fun r hr => dtail_next ht hr.atext).pmap _)
        fun r _ => by rw [List.append_assoc]; exact hnw _).pmap _
    exact ⟨hdat.alt_left, hdat.alt_left⟩

/-! ## quoted local parts and domain literals -/

/-- the inside of a quoted local part, which the grammar keeps verbatim -/
inductive RawQ : List Char → Prop
  | nil : RawQ []
  | ch (c : Char) (r : List Char) : (isWsp c || isQtext c || nonAscii c) = true → RawQ r → RawQ (c :: r)
  | pair (c : Char) (r : List Char) : isText true c = true → isWsp c = false → RawQ r → RawQ ('\\' :: c :: r)

/-- the item of `quotedStringRaw`'s loop -/
def rawItem : Parser (List Char) :=
  alt (pmap (fun c => [c]) (sat (fun c => isWsp c || isQtext c || nonAscii c)))
    (pmap (fun (b, c) => [b, c]) (seq (just '\\') (sat (isText opts.obsQp))))

theorem rawItem_stop (r : List Char) : rawItem ('"' :: r) = none := by
  have h0 : (isWsp '"' || isQtext '"' || nonAscii '"') = false := by decide
  simp [rawItem, alt, pmap, sat, h0, seq, just]

theorem many_raw {inner : List Char} (hi : RawQ inner) :
    ∃ xs, xs.flatten = inner ∧ Reads (many rawItem) (rawItem · = none) inner xs := by
  induction hi with
  | nil => exact ⟨[], rfl, .many_nil fun _ h => h⟩
  | ch c r hc _ ih =>
    obtain ⟨xs, rfl, hm⟩ := ih
    exact ⟨[c] :: xs, rfl, .many_cons_any (a := [c]) ((sat_reads hc).pmap _).alt_left (List.cons_ne_nil _ _) hm⟩
  | pair c r hc _ _ ih =>
    obtain ⟨xs, rfl, hm⟩ := ih
    have : Reads rawItem Any ['\\', c] ['\\', c] :=
      .alt_right (fun r _ => pmap_none _ (sat_cons_false _ _ _ (by decide)))
        (((just_reads '\\').seq_any (sat_reads hc)).pmap _)
    exact ⟨['\\', c] :: xs, rfl, .many_cons_any (a := ['\\', c]) this (List.cons_ne_nil _ _) hm⟩

theorem quotedStringRaw_read {inner : List Char} (hi : RawQ inner) :
    Reads (quotedStringRaw opts) Any ('"' :: inner ++ ['"']) ('"' :: inner ++ ['"']) := by
  obtain ⟨xs, rfl, hm⟩ := many_raw hi
  exact (((just_reads '"').seq_any hm).seq (just_reads '"') fun r _ => rawItem_stop r).pmap _

/-- the same text read as an ordinary quoted string (what `phrase` tries on a bare address) -/
theorem rawq_qbody {inner : List Char} (hi : RawQ inner) :
    ∃ b s w, inner = b ++ w ∧ QBody b s ∧ (∀ c ∈ w, isWsp c = true) := by
  induction hi with
  | nil => exact ⟨[], [], [], rfl, .nil, (List.forall_mem_nil _)⟩
  | ch c r hc _ ih =>
    obtain ⟨b, s, w, rfl, hb, hw⟩ := ih
    by_cases hcw : isWsp c = true
    · -- a blank joins the white space before the first unit, or the trailing white space if there is no unit
      cases hb with
      | nil => exact ⟨[], [], c :: w, rfl, .nil, List.forall_mem_cons.mpr ⟨hcw, hw⟩⟩
      | unit w0 k c0 b' s' hw0 hk hb' =>
        exact ⟨_, _, w, rfl, .unit (c :: w0) k c0 b' s' (List.forall_mem_cons.mpr ⟨hcw, hw0⟩) hk hb', hw⟩
    · have hq : (isQtext c || nonAscii c) = true := by simpa [hcw] using hc
      exact ⟨_, _, w, rfl, .unit [] [c] c b s (List.forall_mem_nil _) (.self c hq) hb, hw⟩
  | pair c r hc hcw _ ih =>
    obtain ⟨b, s, w, rfl, hb, hw⟩ := ih
    exact ⟨_, _, w, rfl, .unit [] ['\\', c] c b s (List.forall_mem_nil _) (.pair c hc hcw) hb, hw⟩

def LocalOk (u : List Char) : Prop := DotAtom u ∨ ∃ inner, u = '"' :: inner ++ ['"'] ∧ RawQ inner
def DomainOk (d : List Char) : Prop := DotAtom d ∨ ∃ xs, d = '[' :: xs ++ [']'] ∧ ∀ c ∈ xs, isDtext c = true

theorem dotAtom_fail (x : Char) (r : List Char) (hx : isAtext x = false) (hw : isWsp x = false) : dotAtom (x :: r) = none :=
  pmap_none _ ((fws_run [] (List.forall_mem_nil _)).seq_none (.cons hw)
    (pmap_none _ (seq_none_left _ (many1_stop (sat_cons_false _ x r hx)))))

theorem local_read {u : List Char} (hu : LocalOk u) : Reads (localPart opts) StopD u u := by
  rcases hu with hu | ⟨inner, rfl, hi⟩
  · exact (dotAtom_or_obs hu).1
  · exact .alt_right (fun r _ => dotAtom_fail '"' _ quote_not_atext (by decide))
      ((quotedStringRaw_read hi).alt_left.mono fun _ _ => trivial)

theorem domain_read {d : List Char} (hd : DomainOk d) : Reads (domain opts) StopD d d := by
  rcases hd with hd | ⟨xs, rfl, hx⟩
  · exact (dotAtom_or_obs hd).2
  · have hlit : Reads domainLiteral Any ('[' :: xs ++ [']']) ('[' :: xs ++ [']']) :=
      (((just_reads '[').seq_any (many_sat isDtext xs hx)).seq (just_reads ']') fun _ _ => .cons (by decide)).pmap _
    refine .alt_right (fun r _ => dotAtom_fail '[' _ (by decide) (by decide))
      (.alt_right (fun r _ => ?_) (hlit.mono fun _ _ => trivial))
    exact pmap_none _ (seq_none_left _ (atom_fail [] (List.forall_mem_nil _) (.cons (by decide))))

/-! ## the address, the angle brackets, one mailbox -/

theorem addrSpec_read {u d : List Char} (hu : LocalOk u) (hd : DomainOk d) :
    Reads (addrSpec opts) StopD (u ++ '@' :: d) (u, d) := by
  have := (((local_read hu).seq (just_reads '@') fun _ _ => .cons (by decide)).seq_any (domain_read hd)).pmap
    fun ((l, _), d) => (l, d)
  rwa [List.append_assoc] at this

/-- what may follow a mailbox: the end of the text or a comma -/
def Sep : List Char → Prop := NoHead (· != ',')

namespace Sep
variable {r : List Char}
theorem stopD (h : Sep r) : StopD r := h.mono fun _ hc => bne_eq_false_iff_eq.mp hc ▸ by decide
theorem nows (h : Sep r) : NoHead isUWs r := h.mono fun _ hc => bne_eq_false_iff_eq.mp hc ▸ by decide
end Sep

theorem angleAddr_shown {u d : List Char} (hu : LocalOk u) (hd : DomainOk d) :
    Reads (angleAddr opts) Sep (' ' :: '<' :: (u ++ '@' :: d) ++ ['>']) (u, d) := by
  have hin : Reads _ Any ('<' :: (u ++ '@' :: d) ++ ['>']) (u, d) :=
    (((just_reads '<').seq_any (addrSpec_read hu hd)).seq (just_reads '>') fun _ _ => .cons (by decide)).pmap
      fun ((_, a), _) => a
  have := padded_reads [' '] [] (List.forall_mem_singleton.mpr (by decide)) (List.forall_mem_nil _) hin (List.cons_ne_nil _ _)
    (.cons (by decide)) fun r (hr : Sep r) => ⟨hr.nows, trivial⟩
  rwa [List.append_nil] at this

theorem many_dot_words {t : List Char} (ht : DTail t) : ∃ xs, Reads (many wordOrDot) PhraseEnd t xs := by
  induction ht with
  | nil => exact ⟨[], .many_nil fun _ h => h.1⟩
  | cons a t hane ha ht ih =>
    obtain ⟨xs, hm⟩ := ih
    have hdot : Reads wordOrDot Any ['.'] ['.'] :=
      .alt_right (fun r _ => word_fail [] (List.forall_mem_nil _) (.cons (c := '.') (by decide)) (.cons (by decide)))
        ((just_reads '.').pmap _)
    exact ⟨_, .many_cons_any (a := ['.']) (t := a ++ t) hdot (List.cons_ne_nil _ _)
      (.many_cons (word_atext ha hane).alt_left hane hm fun r hr => dtail_next ht hr.2)⟩

theorem local_phrase {u : List Char} (hu : LocalOk u) : ∃ v, Reads (phrase opts) PhraseEnd u v := by
  rcases hu with hu | ⟨inner, rfl, hi⟩
  · obtain ⟨a, t, rfl, hane, ha, ht⟩ := hu.split
    obtain ⟨xs, hm⟩ := many_dot_words ht
    exact ⟨_, (((word_atext ha hane).seq hm fun r hr => dtail_next ht hr.2).pmap _).alt_left⟩
  · obtain ⟨b, s, w, rfl, hb, hw⟩ := rawq_qbody hi
    exact ⟨_, phrase_quoted (by simpa using quotedString_body hb hw)⟩

/-- a bare address is not a name-addr: the phrase reads the local part, and no `<` follows -/
theorem nameAddr_bare {u : List Char} (hu : LocalOk u) (rest : List Char) : nameAddr opts (u ++ '@' :: rest) = none := by
  obtain ⟨v, hp⟩ := local_phrase hu
  exact hp.opt_some.seq_none (phraseEnd_at rest)
    (padded_fail (.cons (by decide)) (pmap_none _ (seq_none_left _ (seq_none_left _ (just_fail (.cons (by decide)))))))

theorem oneMailbox_bare {u d : List Char} (hu : LocalOk u) (hd : DomainOk d) :
    Reads (oneMailbox opts) Sep (u ++ '@' :: d) (none, (u, d)) :=
  .alt_right (fun r _ => by rw [List.append_assoc]; exact nameAddr_bare hu _)
    (((addrSpec_read hu hd).mono fun _ => Sep.stopD).pmap _)

theorem oneMailbox_named {n u d : List Char} (hne : trim n ≠ []) (hu : LocalOk u) (hd : DomainOk d) :
    Reads (oneMailbox opts) Sep (Builder.wordText (trim n) ++ (' ' :: '<' :: (u ++ '@' :: d) ++ ['>']))
      (some (cfg false (trim n)), (u, d)) :=
  ((display_name_reads n hne).opt_some.seq (angleAddr_shown hu hd) fun _ _ => phraseEnd_angle _).alt_left

/-! ## the name read back normalises to the name stored -/

theorem cfg_last (s : List Char) (p : Bool) (h : ∀ x ∈ s.getLast?, isWsp x = false) : (cfg p s).getLast? = s.getLast? := by
  induction s generalizing p with
  | nil => rfl
  | cons c s ih =>
    cases s with
    | nil => rw [cfg_cons_nows p c [] (h c rfl)]; rfl
    | cons d r =>
      have ih (p' : Bool) := ih p' (by rwa [List.getLast?_cons_cons] at h)
      rw [List.getLast?_cons_cons, cfg]
      split
      · split
        · exact ih true
        · rw [List.getLast?_cons, ih true, List.getLast?_cons (a := d)]; rfl
      · rw [List.getLast?_cons, ih false, List.getLast?_cons (a := d)]; rfl

theorem normName_go_cfg (s : List Char) (p : Bool) : normName.go p (cfg p s) = normName.go p s := by
  fun_induction cfg p s with
  | case1 => rfl
  | case2 c r hc ih => simp [normName.go, hc, ih]
  | case3 p c r hc hp ih => simp [normName.go, hc, hp, ih]
  | case4 p c r hc ih => simp [normName.go, hc, ih]

theorem normName_read_back (n : List Char) (hne : trim n ≠ []) :
    normName (some (cfg false (trim n))) = normName (some n) := by
  obtain ⟨hh, hl⟩ := trim_ends n
  have hlast := cfg_last (trim n) false fun x hx => not_uws_not_wsp x (hl x hx)
  cases hs : trim n with
  | nil => exact absurd hs hne
  | cons x r =>
    rw [hs] at hh hl hlast
    have hhead : cfg false (x :: r) = x :: cfg false r := cfg_cons_nows false x r (not_uws_not_wsp x hh.head)
    have ht : trim (cfg false (x :: r)) = cfg false (x :: r) :=
      trim_eq_self _ (hhead ▸ .cons hh.head) (hlast ▸ hl)
    simp only [normName, hs, ht, normName_go_cfg]
    simp [hhead]

theorem wordText_head {n : List Char} (hne : trim n ≠ []) :
    Builder.wordText (trim n) ≠ [] ∧ NoHead isUWs (Builder.wordText (trim n)) := by
  unfold Builder.wordText
  split
  · exact ⟨hne, (trim_ends n).1⟩
  · exact ⟨List.cons_ne_nil _ _, .cons (by decide)⟩

/-! ## a displayed mailbox, a displayed list -/

/-- the addresses the theorems cover: `local@domain`, the local part a dot-atom or a quoted string and not starting
    with white space, the domain a dot-atom or a bracketed literal of `dtext`, accepted by `Address::new` -/
structure GoodAddr (e : Address.Env) (email : List Char) : Prop where
  ex : ∃ u d, email = u ++ '@' :: d ∧ LocalOk u ∧ DomainOk d ∧ (∃ x r, u = x :: r ∧ isUWs x = false) ∧
    Address.new e u d = .ok ⟨u, d⟩

/-- `Address::new` on the two parts the grammar returns for a mailbox -/
def toMBox? (e : Address.Env) : MB → Option MBox
  | (name, (u, d)) => match Address.new e u d with
    | .ok a => some ⟨name, a.serialized⟩
    | .error _ => none

theorem parse1_of {e : Address.Env} {s r : List Char} {mb : MB} (h : mailbox opts s = some (mb, r)) :
    parse1 e s = toMBox? e mb := by
  -- `delta`: the unfolding equations of `parse1`, `parseList`, `mailboxList` take Lean seconds to derive
  delta parse1; rw [h]; rfl

theorem parseList_of {e : Address.Env} {s r : List Char} {ms : List MB} (h : mailboxList opts s = some (ms, r)) :
    parseList e s = ms.mapM (toMBox? e) := by
  delta parseList; rw [h]; rfl

theorem show1_cases {m : MBox} {txt : List Char} (h : show1 m = some txt) :
    (normName m.name = none ∧ txt = m.email) ∨
    ∃ n, m.name = some n ∧ trim n ≠ [] ∧ txt = Builder.wordText (trim n) ++ (' ' :: '<' :: m.email ++ ['>']) := by
  simp only [show1] at h
  split at h
  · rename_i n hn
    split at h
    · rename_i hemp
      exact .inl ⟨by simp [hn, normName, hemp], (Option.some.inj h).symm⟩
    · rename_i hemp
      rw [escapeCrLf, Builder.writeWord_eq] at h
      exact .inr ⟨n, hn, by simpa using hemp, by rw [← Option.some.inj h]; simp⟩
  · rename_i hn
    exact .inl ⟨by rw [hn]; rfl, (Option.some.inj h).symm⟩

/-- what the grammar returned passes `Address::new` and gives the stored mailbox back, the name up to `normName` -/
def Back (e : Address.Env) (mb : MB) (m : MBox) : Prop :=
  ∃ m', toMBox? e mb = some m' ∧ m'.email = m.email ∧ normName m'.name = normName m.name

def BackL (e : Address.Env) (mbs : List MB) (l : List MBox) : Prop :=
  ∃ l', mbs.mapM (toMBox? e) = some l' ∧ LV.Builder.emails l' = LV.Builder.emails l ∧
    l'.map (fun m => normName m.name) = l.map (fun m => normName m.name)

theorem backL_cons {e : Address.Env} {mb : MB} {m : MBox} {mbs : List MB} {l : List MBox} :
    Back e mb m → BackL e mbs l → BackL e (mb :: mbs) (m :: l) := by
  rintro ⟨m', h1, h2, h3⟩ ⟨l', h4, h5, h6⟩
  exact ⟨m' :: l', by rw [List.mapM_cons, h1, h4]; rfl,
    show m'.email :: LV.Builder.emails l' = m.email :: LV.Builder.emails l by rw [h2, h5],
    show normName m'.name :: l'.map _ = normName m.name :: l.map _ by rw [h3, h6]⟩

theorem shown_one (e : Address.Env) (m : MBox) (txt : List Char) (hg : GoodAddr e m.email) (hs : show1 m = some txt) :
    txt ≠ [] ∧ NoHead isUWs txt ∧ ∃ mb, Reads (oneMailbox opts) Sep txt mb ∧ Back e mb m := by
  obtain ⟨name, email⟩ := m
  obtain ⟨u, d, rfl, hu, hd, ⟨x, r, rfl, hxw⟩, hnew⟩ := hg.ex
  have hto (name : Option (List Char)) : toMBox? e (name, (x :: r, d)) = some ⟨name, x :: r ++ '@' :: d⟩ := by
    simp only [toMBox?, hnew, Address.Addr.serialized]
  rcases show1_cases hs with ⟨hn, rfl⟩ | ⟨n, rfl, hne, rfl⟩
  · exact ⟨List.append_ne_nil_of_left_ne_nil (List.cons_ne_nil _ _) _, .cons hxw, _, oneMailbox_bare hu hd, _, hto none, rfl,
      hn.symm⟩
  · obtain ⟨htne, hth⟩ := wordText_head hne
    exact ⟨List.append_ne_nil_of_left_ne_nil htne _, hth.append_right _ htne, _, oneMailbox_named hne hu hd, _, hto _, rfl,
      normName_read_back n hne⟩

theorem parse1_show1 (e : Address.Env) (m : MBox) (txt : List Char) (hg : GoodAddr e m.email) (hs : show1 m = some txt) :
    ∃ m', parse1 e txt = some m' ∧ m'.email = m.email ∧ normName m'.name = normName m.name := by
  obtain ⟨hne, hh, mb, h1, m', hto, hm'⟩ := shown_one e m txt hg hs
  have := padded_reads (K := (· = [])) [] [] (List.forall_mem_nil _) (List.forall_mem_nil _) h1 hne hh
    (fun r hr => by subst hr; exact ⟨.nil, NoHead.nil⟩) [] rfl
  simp only [List.nil_append, List.append_nil] at this
  have hm : mailbox opts txt = some (mb, []) := by
    simp only [mailbox, pmap, seq, this, pend, Option.map_some]
  exact ⟨m', by rw [parse1_of hm, hto], hm'⟩

/-- the `, ` that `Display for Mailboxes` writes between two mailboxes -/
theorem sepComma_shown : Reads sepComma (fun b => b ≠ [] ∧ NoHead isUWs b) [',', ' '] () :=
  (padded_reads [] [' '] (List.forall_mem_nil _) (List.forall_mem_singleton.mpr (by decide)) (just_reads ',') (List.cons_ne_nil _ _)
    (.cons (by decide)) fun _ hr => ⟨hr.2, trivial⟩).pmap _

theorem sepByF_succ (f : Nat) (s : List Char) : sepByF opts (f + 1) s =
    match seq sepComma (oneMailbox opts) s with
    | none => some ([], s)
    | some ((_, m), r) => (sepByF opts f r).map fun (ms, r') => (m :: ms, r') := by
  -- `by rfl`, not the term `rfl`: for a term Lean also tries the equation with reducible unfolding only, very slowly here
  rfl

theorem sepByF_nil (fuel : Nat) : sepByF opts fuel [] = some ([], []) := by
  cases fuel with
  | zero => rfl
  | succ f =>
    have : seq sepComma (oneMailbox opts) [] = none := seq_none_left _ (pmap_none _ (padded_fail .nil rfl))
    rw [sepByF_succ, this]

/-- what follows a displayed mailbox in a displayed list -/
def Rest : List MBox → List Char → Prop
  | [], r => r = []
  | rest, r => ∃ b, showList rest = some b ∧ r = ',' :: ' ' :: b

theorem showList_cons {m : MBox} {rest : List MBox} {txt : List Char} (h : showList (m :: rest) = some txt) :
    ∃ a r, show1 m = some a ∧ txt = a ++ r ∧ Rest rest r := by
  cases rest with
  | nil => exact ⟨txt, [], h, (List.append_nil _).symm, rfl⟩
  | cons m2 ms =>
    simp only [showList, Option.bind_eq_bind] at h
    obtain ⟨a, ha, h⟩ := Option.bind_eq_some_iff.mp h
    obtain ⟨b, hb, h⟩ := Option.bind_eq_some_iff.mp h
    exact ⟨a, _, ha, by rw [← Option.some.inj h, List.append_assoc]; rfl, b, hb, rfl⟩

theorem rest_sep {rest : List MBox} {r : List Char} (h : Rest rest r) : Sep r := by
  cases rest with
  | nil => exact h ▸ .nil
  | cons _ _ => obtain ⟨_, _, rfl⟩ := h; exact .cons (by decide)

/-- `fuel`: `mailboxList` gives `sepByF` more than the text is long -/
theorem rest_shown (e : Address.Env) (rest : List MBox) (hg : ∀ m ∈ rest, GoodAddr e m.email) (r : List Char)
    (hr : Rest rest r) (fuel : Nat) (hf : r.length < fuel) : ∃ ms, sepByF opts fuel r = some (ms, []) ∧ BackL e ms rest := by
  induction rest generalizing r fuel with
  | nil => obtain rfl : r = [] := hr; exact ⟨[], sepByF_nil fuel, [], rfl, rfl, rfl⟩
  | cons m rest ih =>
    obtain ⟨b, hb, rfl⟩ := hr
    obtain ⟨hm, hg⟩ := List.forall_mem_cons.mp hg
    obtain ⟨a, r', ha, rfl, hr'⟩ := showList_cons hb
    obtain ⟨hne, hh, mb, h1, hback⟩ := shown_one e m a hm ha
    cases fuel with
    | zero => cases hf
    | succ f =>
      obtain ⟨ms, h3, h4⟩ := ih hg r' hr' f
        (Nat.lt_of_le_of_lt ((List.sublist_append_right a r').cons _).length_le (Nat.lt_of_succ_lt_succ hf))
      have hsq : seq sepComma (oneMailbox opts) (',' :: ' ' :: (a ++ r')) = some (((), mb), r') :=
        (sepComma_shown.seq h1 fun r _ => ⟨List.append_ne_nil_of_left_ne_nil hne r, hh.append_right r hne⟩) r' (rest_sep hr')
      exact ⟨mb :: ms, by simp only [sepByF_succ, hsq, h3, Option.map_some], backL_cons hback h4⟩

theorem parseList_showList (e : Address.Env) (l : List MBox) (txt : List Char) (hne : l ≠ [])
    (hg : ∀ m ∈ l, GoodAddr e m.email) (hs : showList l = some txt) :
    ∃ l', parseList e txt = some l' ∧ LV.Builder.emails l' = LV.Builder.emails l ∧
      l'.map (fun m => normName m.name) = l.map (fun m => normName m.name) := by
  obtain ⟨m, rest, rfl⟩ := List.exists_cons_of_ne_nil hne
  obtain ⟨a, r, ha, rfl, hr⟩ := showList_cons hs
  obtain ⟨_, _, mb, h1, hback⟩ := shown_one e m a (hg m List.mem_cons_self) ha
  obtain ⟨ms, h2, h3⟩ := rest_shown e rest (fun y hy => hg y (List.mem_cons_of_mem _ hy)) r hr ((a ++ r).length + 1)
    (Nat.lt_succ_of_le (List.sublist_append_right a r).length_le)
  have hml : mailboxList opts (a ++ r) = some (mb :: ms, []) := by
    delta mailboxList
    simp only [h1 r (rest_sep hr), h2, Option.map_some, pend]
  obtain ⟨l', h4, h5⟩ := backL_cons hback h3
  exact ⟨l', by rw [parseList_of hml, h4], h5⟩

/-- the hypothesis of C01's refinement theorem, for the addresses of the class -/
theorem emails_round_trip (e : Address.Env) : LV.Builder.EmailsRoundTrip e (GoodAddr e) :=
  ⟨fun l t hne hg hs => by
      obtain ⟨l', h1, h2, _⟩ := parseList_showList e l t hne hg hs
      exact ⟨l', h1, h2⟩,
   fun m t hg hs => by
      obtain ⟨m', h1, h2, _⟩ := parse1_show1 e m t hg hs
      exact ⟨m', h1, h2⟩⟩

/-! ## the class, decidably (what the correspondence check evaluates on every real mailbox) -/

theorem dtailB_sound (f : Nat) (t : List Char) (h : dtailB f t = true) : DTail t := by
  fun_induction dtailB f t with
  | case1 => exact .nil
  | case2 => cases h
  | case3 f c cs ih =>
    simp only [Bool.and_eq_true, beq_iff_eq, Bool.not_eq_true', List.isEmpty_eq_false_iff] at h
    obtain ⟨⟨rfl, hne⟩, ht⟩ := h
    rw [← List.takeWhile_append_dropWhile (p := isAtext) (l := cs), ← List.cons_append]
    exact .cons _ _ hne (List.all_eq_true.mp List.all_takeWhile) (ih ht)

theorem dotAtomB_sound (u : List Char) (h : dotAtomB u = true) : DotAtom u := by
  simp only [dotAtomB, Bool.and_eq_true, Bool.not_eq_true', List.isEmpty_eq_false_iff] at h
  exact ⟨⟨_, _, List.takeWhile_append_dropWhile.symm, h.1, List.all_eq_true.mp List.all_takeWhile, dtailB_sound _ _ h.2⟩⟩

theorem rawQB_sound (l : List Char) (h : rawQB l = true) : RawQ l := by
  fun_induction rawQB l with
  | case1 => exact .nil
  | case2 c2 r2 ih =>
    simp only [Bool.and_eq_true, Bool.not_eq_true'] at h
    exact .pair c2 r2 h.1.1 h.1.2 (ih h.2)
  | case3 => cases h
  | case4 c r hc ih =>
    simp only [Bool.and_eq_true] at h
    exact .ch c r h.1 (ih h.2)

theorem quotedLocalB_sound (u : List Char) (h : quotedLocalB u = true) : ∃ inner, u = '"' :: inner ++ ['"'] ∧ RawQ inner := by
  cases u with
  | nil => simp [quotedLocalB] at h
  | cons x r =>
    simp only [quotedLocalB, Bool.and_eq_true, beq_iff_eq] at h
    obtain ⟨⟨rfl, hl⟩, hr⟩ := h
    obtain ⟨inner, rfl⟩ := List.getLast?_eq_some_iff.mp hl
    rw [List.dropLast_concat] at hr
    exact ⟨inner, rfl, rawQB_sound _ hr⟩

theorem literalB_sound (d : List Char) (h : literalB d = true) : ∃ xs, d = '[' :: xs ++ [']'] ∧ ∀ c ∈ xs, isDtext c = true := by
  cases d with
  | nil => simp [literalB] at h
  | cons x r =>
    simp only [literalB, Bool.and_eq_true, beq_iff_eq] at h
    obtain ⟨⟨rfl, hl⟩, hr⟩ := h
    obtain ⟨xs, rfl⟩ := List.getLast?_eq_some_iff.mp hl
    rw [List.dropLast_concat] at hr
    exact ⟨xs, rfl, List.all_eq_true.mp hr⟩

theorem addrClassB_sound (e : Address.Env) (u d : List Char) (h : addrClassB u d = true)
    (hnew : Address.new e u d = .ok ⟨u, d⟩) : GoodAddr e (u ++ '@' :: d) := by
  simp only [addrClassB, Bool.and_eq_true, Bool.or_eq_true] at h
  obtain ⟨⟨hu, hd⟩, hx⟩ := h
  cases u with
  | nil => simp at hx
  | cons x r =>
    exact ⟨⟨x :: r, d, rfl, hu.imp (dotAtomB_sound _) (quotedLocalB_sound _), hd.imp (dotAtomB_sound _) (literalB_sound _),
      ⟨x, r, rfl, by simpa using hx⟩, hnew⟩⟩

/-- the class is not empty: `a.b@c.d`, and a quoted local part at an address literal -/
example : GoodAddr ⟨fun c => isAlpha c || isDigit c, fun _ => none, fun _ => false⟩ ['a', '.', 'b', '@', 'c', '.', 'd'] :=
  addrClassB_sound _ ['a', '.', 'b'] ['c', '.', 'd'] (by decide +kernel) (by rfl)
example : GoodAddr ⟨fun c => isAlpha c || isDigit c, fun _ => none, fun s => s == ['1', '.', '2', '.', '3', '.', '4']⟩
    ['"', 'a', ' ', '\\', '"', 'b', '"', '@', '[', '1', '.', '2', '.', '3', '.', '4', ']'] :=
  addrClassB_sound _ ['"', 'a', ' ', '\\', '"', 'b', '"'] ['[', '1', '.', '2', '.', '3', '.', '4', ']'] (by decide +kernel) (by rfl)

end LV.PegProof
