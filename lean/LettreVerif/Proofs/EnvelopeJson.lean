import LettreVerif.Spec.EnvelopeJson
import LettreVerif.Proofs.Bytes
/-!
# The envelope file reads back (`Spec/EnvelopeJson.lean` applied to `Transports.envelopeJson`) and is linear in the envelope
-/
namespace LV.EnvelopeJson
open LV.Transports

theorem readStr_quote (r : Bytes) : readStr (34 :: r) = some ([], r) := by
  rw [readStr.eq_def]; simp

theorem readStr_esc (e : Byte) (r : Bytes) (h : e = 34 ∨ e = 92) :
    readStr (92 :: e :: r) = (readStr r).map fun p => (e :: p.1, p.2) := by
  rw [readStr.eq_def]; simp [h]

theorem readStr_plain (b : Byte) (r : Bytes) (h1 : b ≠ 34) (h2 : b ≠ 92) :
    readStr (b :: r) = (readStr r).map fun p => (b :: p.1, p.2) := by
  rw [readStr.eq_def]; simp [h1, h2]

theorem readStr_escapeByte (b : Byte) (x : Bytes) :
    readStr (jsonEscapeByte b ++ x) = (readStr x).map fun p => (b :: p.1, p.2) := by
  rw [jsonEscapeByte]
  by_cases h1 : b = 34
  · rw [if_pos h1, h1]; exact readStr_esc 34 x (.inl rfl)
  · by_cases h2 : b = 92
    · rw [if_neg h1, if_pos h2, h2]; exact readStr_esc 92 x (.inr rfl)
    · rw [if_neg h1, if_neg h2]; exact readStr_plain b x h1 h2

theorem readStr_escaped (s r : Bytes) : readStr (s.flatMap jsonEscapeByte ++ 34 :: r) = some (s, r) := by
  induction s with
  | nil => exact readStr_quote r
  | cons b bs ih => rw [List.flatMap_cons, List.append_assoc, readStr_escapeByte, ih]; rfl

theorem jsonString_append (s r : Bytes) : jsonString s ++ r = 34 :: (s.flatMap jsonEscapeByte ++ 34 :: r) := by
  simp [jsonString]

theorem readStr_jsonString (s r : Bytes) : readStr ((jsonString s).drop 1 ++ r) = some (s, r) := by
  simp only [jsonString, List.cons_append, List.nil_append, List.drop_succ_cons, List.drop_zero, List.append_assoc]
  exact readStr_escaped s r

/-- the elements after the first one, each preceded by a comma -/
def tailOf (ts : List Bytes) : Bytes := ts.flatMap fun t => 44 :: jsonString t

theorem tailOf_cons (t : Bytes) (ts : List Bytes) : tailOf (t :: ts) = 44 :: (jsonString t ++ tailOf ts) := rfl

theorem joinComma_cons (t : Bytes) (ts : List Bytes) :
    joinComma ((t :: ts).map jsonString) = jsonString t ++ tailOf ts := by
  induction ts generalizing t with
  | nil => exact (List.append_nil _).symm
  | cons u us ih => rw [tailOf_cons, ← ih u]; exact List.append_assoc _ [44] _

theorem readItems_tail (ts : List Bytes) (fuel : Nat) (r : Bytes) (h : ts.length < fuel) :
    readItems fuel (tailOf ts ++ 93 :: r) = some (ts, r) := by
  induction fuel generalizing ts with
  | zero => exact absurd h (Nat.not_lt_zero _)
  | succ f ih =>
    cases ts with
    | nil => rfl
    | cons t ts =>
      rw [tailOf_cons, List.cons_append, List.append_assoc, jsonString_append, readItems, readStr_escaped]
      dsimp only
      rw [ih ts (Nat.lt_of_succ_lt_succ h)]
      rfl

theorem readArr_list (to : List Bytes) (r : Bytes) :
    readArr (joinComma (to.map jsonString) ++ 93 :: r) = some (to, r) := by
  cases to with
  | nil => rfl
  | cons t ts =>
    -- `readItems` spends one unit of fuel per element and is given the length of the text
    have fuel : ts.length < (tailOf ts ++ 93 :: r).length + 1 := by
      rw [List.length_append]
      exact Nat.lt_succ_of_le (Nat.le_add_right_of_le (length_le_flatMap (fun _ => List.cons_ne_nil _ _) ts))
    rw [joinComma_cons, List.append_assoc, jsonString_append, readArr, readStr_escaped]
    dsimp only
    rw [readItems_tail ts _ r fuel]
    rfl

theorem dropPrefix_append (p s : Bytes) : dropPrefix p (p ++ s) = some s := by
  simp [dropPrefix]

def revPath (f : Option Bytes) : Bytes := match f with | some f => jsonString f | none => str "null"

/-- the file as the reader goes through it: key, array, `]`, key, reverse path, `}` -/
theorem envelopeJson_eq (e : Envelope) : envelopeJson e =
    keyForward ++ (joinComma (e.to.map jsonString) ++ 93 :: (keyReverse ++ (revPath e.from? ++ [125]))) := by
  simp only [envelopeJson, List.append_assoc]
  rfl

theorem read_envelopeJson (e : Envelope) : readEnvelope (envelopeJson e) = some e := by
  rw [envelopeJson_eq]
  simp only [readEnvelope, dropPrefix_append, readArr_list]
  obtain ⟨f, to⟩ := e
  cases f with
  | none => rfl
  | some fa =>
    -- a string starts with a quote, `null}` does not
    have hn (x : Bytes) : 34 :: x ≠ str "null}" := fun h =>
      absurd (congrArg List.head? h) (show some 34 ≠ (str "null}").head? by decide)
    simp only [revPath, jsonString_append, if_neg (hn _), readStr_escaped, if_true]

theorem jsonEscapeByte_length (b : Byte) : (jsonEscapeByte b).length ≤ 2 := by
  unfold jsonEscapeByte; split
  · simp
  · split <;> simp

theorem jsonString_length (s : Bytes) : (jsonString s).length ≤ 2 * s.length + 2 := by
  rw [jsonString, List.length_append, List.length_append, List.length_singleton, Nat.add_comm 1]
  exact Nat.add_le_add_right (length_flatMap_le jsonEscapeByte_length s) 2

theorem joinComma_cons_length (x : Bytes) (xs : List Bytes) :
    (joinComma (x :: xs)).length ≤ x.length + 1 + (joinComma xs).length := by
  cases xs with
  | nil => exact Nat.le_add_right _ _
  | cons y ys => simp only [joinComma, List.length_append, List.length_singleton, Nat.le_refl]

theorem joinComma_length (ts : List Bytes) :
    (joinComma (ts.map jsonString)).length ≤ 2 * (ts.map List.length).sum + 3 * ts.length := by
  induction ts with
  | nil => exact Nat.zero_le _
  | cons t ts ih =>
    rw [List.map_cons, List.map_cons, List.sum_cons, List.length_cons]
    refine Nat.le_trans (joinComma_cons_length _ _) ?_
    refine Nat.le_trans (Nat.add_le_add (Nat.succ_le_succ (jsonString_length t)) ih) ?_
    simp +arith

theorem revPath_length (f : Option Bytes) : (revPath f).length ≤ 2 * (f.map List.length).getD 0 + 4 := by
  cases f with
  | none => decide
  | some f => exact Nat.le_trans (jsonString_length f) (Nat.le_add_right _ 2)

/-- 42: the keys and brackets are 35, `null` or the quotes of the reverse path up to 4; the bound has 3 to spare -/
theorem envelopeJson_linear (e : Envelope) :
    (envelopeJson e).length ≤ 2 * ((e.to.map List.length).sum + (e.from?.map List.length).getD 0) + 3 * e.to.length + 42 := by
  have k1 : keyForward.length = 17 := by decide +kernel
  have k2 : keyReverse.length = 16 := by decide +kernel
  calc (envelopeJson e).length
      = (joinComma (e.to.map jsonString)).length + (revPath e.from?).length + 35 := by
        rw [envelopeJson_eq]
        simp +arith only [List.length_append, List.length_cons, List.length_nil, k1, k2]
    _ ≤ _ := Nat.add_le_add_right (Nat.add_le_add (joinComma_length e.to) (revPath_length e.from?)) 35
    _ ≤ _ := by simp +arith

end LV.EnvelopeJson
