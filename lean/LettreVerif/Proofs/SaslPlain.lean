import LettreVerif.Proofs.Bytes
/-!
# The reader's side of SASL PLAIN (RFC 4616): `[authzid] NUL authcid NUL passwd`, and of XOAUTH2

`SaslPlain.read` and `SaslXoauth2.read` are specifications — our reading of what a server does with the initial response —
and are trusted as such: they model nothing in lettre.  C14 states what they make of what the client sends.
-/
namespace LV

/-- `f` splits at every `sep`, as `splitNul` and `splitA` do -/
theorem split_piece (sep : Byte) (f : Bytes → Bytes → List Bytes)
    (hf : ∀ cur b bs, f cur (b :: bs) = if b = sep then cur.reverse :: f [] bs else f (b :: cur) bs)
    (s : Bytes) (h : ∀ b ∈ s, b ≠ sep) (cur rest : Bytes) :
    f cur (s ++ sep :: rest) = (cur.reverse ++ s) :: f [] rest := by
  induction s generalizing cur with
  | nil => rw [List.nil_append, hf, if_pos rfl, List.append_nil]
  | cons b s ih =>
    rw [List.cons_append, hf, if_neg (h b List.mem_cons_self), ih (fun x hx => h x (List.mem_cons_of_mem _ hx)),
      List.reverse_cons, List.append_assoc]
    rfl

end LV

namespace LV.SaslPlain
open LV

/-- split at every NUL; `cur` is the current piece, reversed -/
def splitNul : Bytes → Bytes → List Bytes
  | cur, [] => [cur.reverse]
  | cur, b :: bs => if b = 0 then cur.reverse :: splitNul [] bs else splitNul (b :: cur) bs

/-- an RFC 4616 server: exactly three pieces — authorization identity, authentication identity, password -/
def read (msg : Bytes) : Option (Bytes × Bytes × Bytes) :=
  match splitNul [] msg with
  | [z, c, p] => some (z, c, p)
  | _ => none

theorem splitNul_nonul (s : Bytes) (h : ∀ b ∈ s, b ≠ 0) (cur rest : Bytes) :
    splitNul cur (s ++ 0 :: rest) = (cur.reverse ++ s) :: splitNul [] rest :=
  split_piece 0 splitNul (fun _ _ _ => rfl) s h cur rest

theorem splitNul_last (s : Bytes) (h : ∀ b ∈ s, b ≠ 0) : ∀ (cur : Bytes), splitNul cur s = [cur.reverse ++ s] := by
  induction s with
  | nil => intro cur; simp [splitNul]
  | cons b s ih =>
    intro cur
    have hb : b ≠ 0 := h b (by simp)
    simp only [splitNul, hb, if_false]
    rw [ih (fun x hx => h x (by simp [hx]))]
    simp

theorem read_plain (u p : Bytes) (hu : ∀ b ∈ u, b ≠ 0) (hp : ∀ b ∈ p, b ≠ 0) :
    read ([0] ++ u ++ [0] ++ p) = some ([], u, p) := by
  have e : [0] ++ u ++ [0] ++ p = [] ++ 0 :: (u ++ 0 :: p) := by
    simp only [List.append_assoc, List.cons_append, List.nil_append]
  rw [read, e, splitNul_nonul [] (List.forall_mem_nil _), splitNul_nonul u hu, splitNul_last p hp []]
  rfl

end LV.SaslPlain

namespace LV.SaslXoauth2
open LV

/-- split at every `^A` (octet 1); `cur` is the current piece, reversed -/
def splitA : Bytes → Bytes → List Bytes
  | cur, [] => [cur.reverse]
  | cur, b :: bs => if b = 1 then cur.reverse :: splitA [] bs else splitA (b :: cur) bs

def dropPrefix (p s : Bytes) : Option Bytes := if p.isPrefixOf s then some (s.drop p.length) else none

/-- the server's reading of the XOAUTH2 initial response: `user=` user `^A` `auth=Bearer ` token `^A^A` -/
def read (msg : Bytes) : Option (Bytes × Bytes) :=
  match splitA [] msg with
  | [a, b, [], []] =>
    match dropPrefix (str "user=") a, dropPrefix (str "auth=Bearer ") b with
    | some u, some t => some (u, t)
    | _, _ => none
  | _ => none

theorem splitA_piece (s : Bytes) (h : ∀ b ∈ s, b ≠ 1) (cur rest : Bytes) :
    splitA cur (s ++ 1 :: rest) = (cur.reverse ++ s) :: splitA [] rest :=
  split_piece 1 splitA (fun _ _ _ => rfl) s h cur rest

theorem dropPrefix_append (p s : Bytes) : dropPrefix p (p ++ s) = some s := by simp [dropPrefix]

theorem read_xoauth2 (u t : Bytes) (hu : ∀ b ∈ u, b ≠ 1) (ht : ∀ b ∈ t, b ≠ 1) :
    read (str "user=" ++ u ++ [1] ++ str "auth=Bearer " ++ t ++ [1, 1]) = some (u, t) := by
  have hp1 : ∀ b ∈ str "user=" ++ u, b ≠ 1 := List.forall_mem_append.mpr ⟨by decide, hu⟩
  have hp2 : ∀ b ∈ str "auth=Bearer " ++ t, b ≠ 1 := List.forall_mem_append.mpr ⟨by decide, ht⟩
  have e : str "user=" ++ u ++ [1] ++ str "auth=Bearer " ++ t ++ [1, 1] =
      (str "user=" ++ u) ++ 1 :: ((str "auth=Bearer " ++ t) ++ 1 :: ([] ++ 1 :: [])) := by
    simp only [List.append_assoc, List.cons_append, List.nil_append]
  rw [read, e, splitA_piece _ hp1, splitA_piece _ hp2, splitA_piece [] (List.forall_mem_nil _)]
  simp only [List.reverse_nil, List.nil_append, splitA, List.append_nil]
  rw [dropPrefix_append, dropPrefix_append]

end LV.SaslXoauth2
