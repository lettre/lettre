import LettreVerif.Proofs.PoolLts
/-!
# Whatever the pool or a thread holds is a healthy connection, and holds it alone (C07 / C08)

`Ok s []`: every connection is in at most one place (`occ`), and if it is somewhere, it exists and is neither marked broken
nor closed.  It is one invariant and not three because each part needs the others: a thread may change or close the
connection it took because nobody else refers to it, and a reference may be put back because the connection is still
healthy.  In the middle of a transition the thread at work has taken connections out of the state and not yet put them
back; `Ok s l` counts those `l` as well, so that a transition is followed the way the code goes: take, work, put back or
let go.
-/
namespace LV.PoolLts

def healthy (k : Conn) : Prop := k.broken = false ∧ k.closed = false

theorem abortConn_broken (k : Conn) : ¬ healthy (abortConn k) := fun h => by
  have := (abortConn_closed k).1
  rw [h.2] at this
  cases this

theorem dropConn_unhealthy (k : Conn) : ¬ healthy (dropConn k) := fun h => by
  have := dropConn_closed k
  rw [h.2] at this
  cases this

theorem probe_healthy (k : Conn) (h : healthy k) : healthy (probe k).1 := by
  obtain ⟨_, p⟩ := probe_spec k
  exact ⟨p.broken.trans h.1, p.closed.trans h.2⟩

theorem transact_healthy (k : Conn) (i m : Nat) (h : healthy k) (hb : (transact k i m).1.broken = false) :
    healthy (transact k i m).1 := by
  rcases transact_spec k i m with ⟨k', _, f⟩ | ⟨_, c⟩
  · rw [f.conn] at hb
    rcases (abortConn_closed k').2 with h3 | h3
    · rw [h3] at hb; cases hb
    · rw [f.closed, h.2] at h3; cases h3
  · exact ⟨hb, c.closed.trans h.2⟩

theorem getConn_openConn_new (s : St) : healthy (getConn (openConn s).1 s.conns.length) := by
  obtain ⟨k, hk, h1, h2, -⟩ := openConn_conns s
  simp only [getConn, hk, List.getD_eq_getElem?_getD, List.getElem?_concat_length, Option.getD_some]
  exact ⟨h2, h1⟩

/-- `l`: the connections the thread at work has in its hands -/
def Ok (s : St) (l : List Nat) : Prop :=
  ∀ d, occ s d + listOcc l d ≤ 1 ∧ (1 ≤ occ s d + listOcc l d → d < s.conns.length ∧ healthy (getConn s d))

namespace Ok
variable {s s' : St} {c : Nat} {l l' : List Nat}

theorem le_one (h : Ok s l) (d : Nat) : occ s d + listOcc l d ≤ 1 := (h d).1

theorem healthy_of_pos (h : Ok s l) {d : Nat} (hd : 1 ≤ occ s d + listOcc l d) :
    d < s.conns.length ∧ healthy (getConn s d) := (h d).2 hd

theorem of_pos (h : Ok s []) {d : Nat} (hd : 1 ≤ occ s d) : d < s.conns.length ∧ healthy (getConn s d) := h.healthy_of_pos hd

theorem of_occ (h : Ok s l) (hocc : ∀ d, occ s' d + listOcc l' d ≤ occ s d + listOcc l d) (hconns : s'.conns = s.conns) :
    Ok s' l' := fun d =>
  ⟨Nat.le_trans (hocc d) (h.le_one d), fun h1 => by
    rw [getConn_of_conns_eq hconns, hconns]; exact h.healthy_of_pos (Nat.le_trans h1 (hocc d))⟩

theorem take (h : Ok s []) (hocc : ∀ d, occ s' d + ind (c == d) = occ s d) (hconns : s'.conns = s.conns) : Ok s' [c] :=
  h.of_occ (fun d => by rw [listOcc_cons, ← hocc d]; exact Nat.le_refl _) hconns

/-- the references the worker holds in `s.maint` move into its hands `l`; `.asleep` stands for any `maint` that holds
    none (`maintOcc = 0`) -/
theorem worker (h : Ok s []) (hl : ∀ d, maintOcc s d = listOcc l d) : Ok { s with maint := .asleep } l :=
  h.of_occ (fun d => by rw [← hl d]; exact Nat.le_of_eq (occ_setMaint s .asleep d)) rfl

/-- the thread lets go of `c`: nothing else refers to it, so whatever it did to it last does not matter -/
theorem drop (h : Ok s (c :: l)) (f : Conn → Conn) : Ok (updConn s c f) l := fun d => by
  have hle : occ s d + listOcc l d ≤ occ s d + listOcc (c :: l) d := Nat.add_le_add_left (Nat.le_add_left _ _) _
  refine ⟨Nat.le_trans hle (h.le_one d), fun h1 => ?_⟩
  rw [occ_updConn] at h1
  have hcd : c ≠ d := fun e => by
    subst e; have := h.le_one c; rw [listOcc_cons, ind_eq_of _ _ rfl] at this; omega
  rw [getConn_updConn_ne _ _ _ _ hcd, updConn_conns_length]
  exact h.healthy_of_pos (Nat.le_trans h1 hle)

theorem upd {f : Conn → Conn} (h : Ok s (c :: l)) (hf : healthy (getConn s c) → healthy (f (getConn s c))) :
    Ok (updConn s c f) (c :: l) := fun d =>
  ⟨h.le_one d, fun h1 => by
    obtain ⟨a, b⟩ := h.healthy_of_pos h1
    refine ⟨by rw [updConn_conns_length]; exact a, ?_⟩
    by_cases hd : c = d
    · subst hd; rw [getConn_updConn_eq _ _ _ a]; exact hf b
    · rw [getConn_updConn_ne _ _ _ _ hd]; exact b⟩

theorem fold {α : Type} (g : α → Nat) (f : Conn → Conn) (l : List α) {s : St} (h : Ok s (l.map g)) :
    Ok (l.foldl (fun s p => updConn s (g p) f) s) [] := by
  induction l generalizing s with
  | nil => exact h
  | cons a l ih => exact ih (h.drop f)

theorem opened (h : Ok s l) : Ok (openConn s).1 (s.conns.length :: l) := fun d => by
  rw [occ_openConn, listOcc_cons, openConn_conns_length]
  by_cases hd : s.conns.length = d
  · subst hd
    -- the new id is nowhere yet: whatever is somewhere exists
    have h0 : occ s s.conns.length + listOcc l s.conns.length = 0 :=
      Nat.eq_zero_of_not_pos fun hp => Nat.lt_irrefl _ (h.healthy_of_pos hp).1
    rw [ind_eq_of _ _ rfl, Nat.add_left_comm, h0]
    exact ⟨Nat.le_refl _, fun _ => ⟨Nat.lt_succ_self _, getConn_openConn_new s⟩⟩
  · rw [ind_ne_of _ _ hd, Nat.zero_add, getConn_openConn_ne s d (Ne.symm hd)]
    exact ⟨h.le_one d, fun h1 => ⟨Nat.lt_succ_of_lt (h.healthy_of_pos h1).1, (h.healthy_of_pos h1).2⟩⟩

theorem send {i : Nat} {t : Sender} (h : Ok s [c]) (ht : s.senders[i]? = some t) (hh : t.holding = none) :
    Ok (sendOn s i c) [] := by
  have hc : c < s.conns.length := (h.healthy_of_pos (by
    rw [listOcc_cons, ind_eq_of _ _ rfl]; exact Nat.le_trans (Nat.le_add_right _ _) (Nat.le_add_left _ _))).1
  rw [sendOn_eq]
  generalize (s.senders.getD i {}).next = m
  generalize (transact (getConn s c) i m).2 = r
  have ho := occ_finishSend (updConn s c fun k => (transact k i m).1) i c r t ht hh
  rw [getConn_updConn_eq _ _ _ hc] at ho
  have hcs := (finishSend_frame (updConn s c fun k => (transact k i m).1) i c r).2.2
  -- a reference to `c` is put back iff it came out unbroken, and then it is healthy
  by_cases hb : (transact (getConn s c) i m).1.broken = true
  · exact (h.drop _).of_occ (fun d => Nat.le_of_eq (by rw [ho, if_pos hb, Nat.add_zero])) hcs
  · exact (h.upd fun hk => transact_healthy _ i m hk ((Bool.not_eq_true _).mp hb)).of_occ
      (fun d => Nat.le_of_eq (by rw [ho, if_neg hb, listOcc_cons, Nat.add_assoc])) hcs
theorem recycle (h : Ok s [c]) : Ok (recycleConn s c) [] :=
  recycleConn_cases (P := fun s' => Ok s' []) s c (h.drop _) fun l hl _ =>
    h.of_occ (fun d => by rw [occ_park s c l hl, listOcc_cons]; exact Nat.le_refl _) rfl

/-- what `s.maint` says about the worker's hands is out of date and is not counted -/
theorem release {f : Conn → Conn} (h : Ok { s with maint := .asleep } l) :
    Ok { l.foldl (fun s c => updConn s c f) s with maint := .asleep } [] := by
  have := fold (fun c => c) f l (s := { s with maint := .asleep }) (by rw [List.map_id']; exact h)
  rw [foldl_updConn_eq] at this
  rw [foldl_updConn_eq (fun c => c)]
  exact this

theorem proceed {more : Nat} {dropped : List Nat} (h : Ok { s with maint := .asleep } dropped) :
    Ok (maintContinue s more dropped) [] := by
  cases more with
  | zero => exact h.release
  | succ n =>
    exact h.opened.of_occ (fun d =>
      Nat.le_of_eq (occ_setMaint (openConn { s with maint := .asleep }).1 (.push s.conns.length n dropped) d)) rfl

end Ok

theorem ok_step {s s' : St} {e : Ev} (h : Ok s []) (hs : step s e = some s') : Ok s' [] := by
  have hands : ∀ c more dropped, s.maint = .push c more dropped → Ok { s with maint := .asleep } (c :: dropped) :=
    fun c more dropped hm => h.worker fun d => by simp only [maintOcc, hm]; rfl
  apply step_cases hs
  case shut =>
    intro i t ht _ _
    exact h.of_occ (fun d => Nat.add_le_add_right (Nat.le_of_eq (occ_updSender_same s i t _ ht rfl d)) _) rfl
  case fresh => intro i t ht hh _; exact h.opened.send ht hh
  case popOk =>
    intro i t c x rest ht hh hidle _
    exact ((h.take (occ_pop s c x rest hidle) rfl).upd (probe_healthy _)).send ht hh
  case popFail => intro c x rest hidle _; exact (h.take (occ_pop s c x rest hidle) rfl).drop _
  case recycleTask => intro w c hw; exact (h.take (occ_takeRecycler s w c hw) rfl).recycle
  case recycleSender => intro w t c ht hc; exact (h.take (occ_takeHolder s w c t _ ht hc rfl) rfl).recycle
  case scanShut => intro hm _; exact h.worker (l := []) (maintOcc_of_not_push s hm)
  case scan =>
    intro l hm hl
    exact Ok.proceed ((h.worker (l := []) (maintOcc_of_not_push s hm)).of_occ
      (fun d => Nat.le_of_eq (occ_scan { s with maint := .asleep } l hl d)) rfl)
  case pushShut => intro c more dropped hm _; exact (hands c more dropped hm).release
  case pushFull => intro c more dropped l hm _; exact Ok.proceed ((hands c more dropped hm).drop abortConn)
  case push =>
    intro c more dropped l hm hl _
    refine Ok.proceed ((hands c more dropped hm).of_occ (fun d => ?_) rfl)
    rw [occ_park { s with maint := .asleep } c l hl d, listOcc_cons, Nat.add_assoc]; exact Nat.le_refl _
  case shutdown =>
    unfold shutdownLock
    split
    · exact h
    · rename_i l hl
      have h1 : Ok { s with idle := none } (l.map (·.1)) := h.of_occ (fun d => Nat.le_of_eq (occ_takeParked s l hl d)) rfl
      exact (h1.fold (fun p : Nat × Bool => p.1) abortConn l).of_occ
        (fun d => by rw [occ_wake _ _ (by simp)]; exact Nat.le_refl _) rfl
  case wait => exact h.of_occ (fun d => Nat.add_le_add_right (Nat.le_of_eq (occ_waitEv s d)) _) rfl

theorem ok_init (a : Bool) (mx mn sd ns : Nat) (pl : List Plan) : Ok (init a mx mn sd ns pl) [] := fun d => by
  have : holdOcc (init a mx mn sd ns pl) d = 0 := by
    simp only [holdOcc, init, List.map_replicate, List.sum_replicate_nat]; rfl
  have : occ (init a mx mn sd ns pl) d = 0 := by rw [occ, this]; rfl
  exact ⟨by rw [this]; exact Nat.zero_le _, fun h => by rw [this] at h; cases h⟩

theorem ok_run (es : List Ev) (s s' : St) (h : Ok s []) (hr : run s es = some s') : Ok s' [] :=
  run_inv (P := fun s => Ok s []) (fun _ _ _ h hs => ok_step h hs) es s s' h hr

theorem ok_excl {s : St} (h : Ok s []) : Excl s := h.le_one

theorem ok_valid {s : St} (h : Ok s []) : Valid s where
  idle l hl p hp := (h.of_pos (occ_pos_of_parked s l hl p.1 p.2 hp)).1
  hold t ht c hc := (h.of_pos (occ_pos_of_held s t ht c hc)).1
  recy c hc := (h.of_pos (occ_pos_of_recycling s c hc)).1
  mnt c m d hm := ⟨(h.of_pos (occ_pos_of_worker s c m d hm c (.inl rfl))).1,
    fun x hx => (h.of_pos (occ_pos_of_worker s c m d hm x (.inr hx))).1⟩

end LV.PoolLts
