import LettreVerif.Spec.Rfc2047Dec
import LettreVerif.Model.HeaderEnc
import LettreVerif.Proofs.Base64
import LettreVerif.Proofs.BodyEnc
/-!
# The RFC 2047 reader on a string of literal segments and encoded-words (decoder side of C12)

`decode_segments`: what the reader of `Spec/Rfc2047Dec.lean` shows for literal text followed by a well-formed chain (`WFC`)
of encoded-words and literal texts. Of the model only the encoded-word `encw d` comes in (`encw_dec`).
-/
namespace LV.Rfc2047Dec
open LV

/-! ## tokens -/

/-- the token `tokens` closes when a run ends: `acc` is the run, reversed -/
def mk (inWs : Bool) (acc : Bytes) : Tok := if inWs then .ws acc.reverse else .word acc.reverse

theorem tokens_nil_acc : ∀ (s : Bytes) (c c' : Bool), tokens s [] c = tokens s [] c'
  | [], _, _ => by simp [tokens]
  | b :: r, c, c' => by simp [tokens]

/-- a run: all white space (`c = true`) or none (`c = false`) -/
def AllC (c : Bool) (l : Bytes) : Prop := ∀ b ∈ l, isWs b = c

theorem tokens_end (acc : Bytes) (c : Bool) (h : acc ≠ []) : tokens [] acc c = [mk c acc] := by
  rw [tokens, if_neg (by simpa using h)]
  rfl

theorem tokens_same (b : Byte) (r acc : Bytes) (c : Bool) (h : acc = [] ∨ isWs b = c) :
    tokens (b :: r) acc c = tokens r (b :: acc) (isWs b) := by
  rw [tokens, if_pos]
  rcases h with rfl | h
  · exact Bool.or_true _
  · rw [h, beq_self_eq_true]; rfl

theorem tokens_diff (x : Byte) (r acc : Bytes) (c : Bool) (h : acc ≠ []) (hx : isWs x = !c) :
    tokens (x :: r) acc c = mk c acc :: tokens r [x] (isWs x) := by
  rw [tokens, if_neg]
  · rfl
  · rw [hx, Bool.not_beq_self, Bool.false_or, List.isEmpty_iff]
    exact h

theorem tokens_break (x : Byte) (r acc : Bytes) (c : Bool) (h : acc ≠ []) (hx : isWs x = !c) :
    tokens (x :: r) acc c = mk c acc :: tokens (x :: r) [] false := by
  rw [tokens_diff x r acc c h hx, tokens_same x r [] false (.inl rfl)]

theorem tokens_run (c : Bool) (u rest acc : Bytes) (b : Bool) (hb : acc = [] ∨ b = c) (hu : AllC c u) :
    tokens (u ++ rest) acc b = tokens rest (u.reverse ++ acc) c := by
  induction u generalizing acc b with
  | nil =>
    rcases hb with rfl | rfl
    · exact tokens_nil_acc rest b c
    · rfl
  | cons x u ih =>
    obtain ⟨hx, hu⟩ := List.forall_mem_cons.mp hu
    rw [List.cons_append, tokens_same x _ acc b (hb.imp id fun e => hx.trans e.symm), hx, ih (x :: acc) c (.inr rfl) hu,
      List.reverse_cons, List.append_assoc]
    rfl

theorem tokens_first_run (c : Bool) (u rest : Bytes) (c0 : Bool) (hu : u ≠ []) (hc : AllC c u)
    (hr : rest = [] ∨ ∃ x r, rest = x :: r ∧ isWs x = !c) :
    tokens (u ++ rest) [] c0 = (if c then Tok.ws u else Tok.word u) :: tokens rest [] false := by
  have hne : u.reverse ++ [] ≠ [] := by simpa using hu
  have hmk : mk c (u.reverse ++ []) = if c then Tok.ws u else Tok.word u := by simp [mk]
  rw [tokens_run c u rest [] c0 (.inl rfl) hc, ← hmk]
  rcases hr with rfl | ⟨x, r, rfl, hx⟩
  · rw [tokens_end _ _ hne]; rfl
  · exact tokens_break x r _ c hne hx

theorem tokens_cons (b : Byte) (r acc : Bytes) (c : Bool) : tokens (b :: r) acc c =
    if isWs b == c || acc.isEmpty then tokens r (b :: acc) (isWs b) else mk c acc :: tokens r [b] (isWs b) := by
  rw [tokens]
  rfl

/-- one octet: it joins the run, or closes it and begins the next; either way the reader goes on with a run that is not
    empty -/
theorem tokens_step (b : Byte) (acc : Bytes) (c : Bool) :
    ∃ pre acc', acc' ≠ [] ∧ ∀ r, tokens (b :: r) acc c = pre ++ tokens r acc' (isWs b) := by
  by_cases h : (isWs b == c || acc.isEmpty) = true
  · exact ⟨[], b :: acc, List.cons_ne_nil _ _, fun r => by rw [tokens_cons, if_pos h]; rfl⟩
  · exact ⟨[mk c acc], [b], List.cons_ne_nil _ _, fun r => by rw [tokens_cons, if_neg h]; rfl⟩

theorem tokens_cut {a y : Byte} (h : isWs y = !isWs a) (r x acc : Bytes) (c : Bool) :
    tokens (x ++ a :: y :: r) acc c = tokens (x ++ [a]) acc c ++ tokens (y :: r) [] false := by
  induction x generalizing acc c with
  | nil =>
    obtain ⟨pre, acc', hne, e⟩ := tokens_step a acc c
    rw [List.nil_append, List.nil_append, e, e, tokens_break y r acc' _ hne h, tokens_end acc' _ hne, List.append_assoc]
    rfl
  | cons b x ih =>
    obtain ⟨pre, acc', -, e⟩ := tokens_step b acc c
    rw [List.cons_append, List.cons_append, e, e, ih, List.append_assoc]

def content : Tok → Bytes
  | .ws b => b
  | .word b => b

def flat (l : List Tok) : Bytes := (l.map content).flatten

theorem flat_cons (t : Tok) (l : List Tok) : flat (t :: l) = content t ++ flat l := rfl

theorem flat_append (a b : List Tok) : flat (a ++ b) = flat a ++ flat b := by simp [flat]

theorem content_mk (c : Bool) (acc : Bytes) : content (mk c acc) = acc.reverse := by cases c <;> rfl

theorem tokens_flat (s acc : Bytes) (c : Bool) : flat (tokens s acc c) = acc.reverse ++ s := by
  induction s generalizing acc c with
  | nil =>
    cases acc with
    | nil => rfl
    | cons a acc => rw [tokens_end _ _ (List.cons_ne_nil _ _), flat_cons, content_mk]; rfl
  | cons b r ih =>
    rw [tokens_cons]
    split
    · rw [ih, List.reverse_cons, List.append_assoc]; rfl
    · rw [flat_cons, ih, content_mk]; rfl

/-! ## decToks -/

def EncFreeT (l : List Tok) : Prop := ∀ w, Tok.word w ∈ l → encWord? w = none

theorem dec_word_lit (w : Bytes) (X : List Tok) (p : Bool) (h : encWord? w = none) :
    decToks (.word w :: X) p = w ++ decToks X false := by
  rw [decToks.eq_2, h]

theorem dec_word_enc (w d : Bytes) (X : List Tok) (p : Bool) (h : encWord? w = some d) :
    decToks (.word w :: X) p = d ++ decToks X true := by
  rw [decToks.eq_2, h]

theorem dec_ws_keep (s : Bytes) (X : List Tok) (p : Bool)
    (h : p = false ∨ ∀ w r, X = .word w :: r → encWord? w = none) :
    decToks (.ws s :: X) p = s ++ decToks X false := by
  match X with
  | [] => exact decToks.eq_4 p s [] (fun w r e => by cases e)
  | .ws t :: r => exact decToks.eq_4 p s _ (fun w r' e => by cases e)
  | .word w :: r =>
    rw [decToks.eq_3, if_neg]
    rcases h with rfl | h
    · exact Bool.false_ne_true
    · rw [h w r rfl]; exact fun e => Bool.false_ne_true (Bool.and_eq_true_iff.mp e).2

theorem dec_ws_drop (s w d : Bytes) (r : List Tok) (h : encWord? w = some d) :
    decToks (.ws s :: .word w :: r) true = decToks (.word w :: r) true := by
  rw [decToks.eq_3, h]
  rfl

/-- `hp`: white space at the front is kept because the reader is not just past an encoded-word, or a literal word
    follows it, or nothing follows at all -/
theorem dec_lit (TL T : List Tok) (p : Bool) (h : EncFreeT TL) (hp : p = false ∨ (∃ w, Tok.word w ∈ TL) ∨ T = []) :
    decToks (TL ++ T) p = flat TL ++ decToks T false := by
  induction TL generalizing p with
  | nil =>
    rcases hp with rfl | ⟨w, hw⟩ | rfl
    · rfl
    · nomatch hw
    · rfl
  | cons t TL ih =>
    have ih := ih false (fun v hv => h v (List.mem_cons_of_mem _ hv)) (.inl rfl)
    cases t with
    | word w =>
      rw [List.cons_append, dec_word_lit _ _ _ (h w List.mem_cons_self), ih, flat_cons, List.append_assoc]
      rfl
    | ws s =>
      -- the token after the white space, if there is one, is the first of `TL`
      have hk : p = false ∨ ∀ v r, TL ++ T = .word v :: r → encWord? v = none :=
        hp.imp id fun hp v r e => h v <| List.mem_cons_of_mem _ <| by
          cases TL with
          | cons => exact (List.cons.inj e).1 ▸ List.mem_cons_self
          | nil =>
            rcases hp with ⟨w, hw⟩ | rfl
            · nomatch List.mem_singleton.mp hw
            · nomatch e
      rw [List.cons_append, dec_ws_keep _ _ _ hk, ih, flat_cons, List.append_assoc]
      rfl

/-! ## encoded-words -/

section
open LV.HeaderEnc LV.BodyEnc

/-- the encoded-word carrying `d`: `HeaderEnc.ew d` of the writer's side (`C12Proof.ew_eq`), which this file does not import -/
def encw (d : Bytes) : Bytes := HeaderEnc.encPrefix ++ Base64.enc d ++ HeaderEnc.encSuffix

theorem encWord?_wrap (x : Bytes) (h : x.length ≤ 63) : encWord? (encPrefix ++ x ++ encSuffix) = Base64.dec x := by
  have hl : (encPrefix ++ x ++ encSuffix).length = x.length + 12 := by
    rw [List.length_append, List.length_append, Nat.add_comm encPrefix.length]
    rfl
  have hsuf : (encPrefix ++ x ++ encSuffix).drop (x.length + 12 - 2) = [63, 61] :=
    List.drop_left' (List.length_append.trans (Nat.add_comm 10 _))
  rw [encWord?, hl, hsuf, List.append_assoc, show 10 = encPrefix.length from rfl, List.take_left, List.drop_left,
    Nat.add_sub_cancel, List.take_left, if_pos]
  rw [decide_eq_true (show x.length + 12 ≤ 75 from Nat.add_le_add_right h 12), decide_eq_true (Nat.le_add_left 12 _)]
  rfl

/-- an encoded-word that carries at most 45 octets has at most 60 characters between `=?utf-8?b?` and `?=` -/
theorem enc_len_le (d : Bytes) (hl : d.length ≤ 45) : (Base64.enc d).length ≤ 60 := by
  rw [enc_len]
  omega

theorem encw_dec (d : Bytes) (hl : d.length ≤ 45) : encWord? (encw d) = some d := by
  rw [encw, encWord?_wrap _ (Nat.le_trans (enc_len_le d hl) (by decide)), Base64.dec_enc]

theorem encw_nows (d : Bytes) : AllC false (encw d) := by
  intro b hb
  simp only [encw, List.mem_append] at hb
  rcases hb with (hb | hb) | hb
  · revert b; decide
  · have := b64Char_props b (enc_chars d b hb)
    simp [isWs, this.2.2.1, this.2.2.2.1]
  · revert b; decide

end

/-! ## a chain of encoded-words and literal segments -/

def allWs (l : Bytes) : Bool := l.all isWs

/-- no word of the literal text would be taken for an encoded-word -/
def EncFree (l : Bytes) : Prop := EncFreeT (tokens l [] false)

def startsWs (l : Bytes) : Prop := ∃ x r, l = x :: r ∧ isWs x = true
def endsWs (l : Bytes) : Prop := ∃ r x, l = r ++ [x] ∧ isWs x = true

/-- `(d, L)`: the encoded-word carrying `d`, then the literal text `L` -/
def renderC : List (Bytes × Bytes) → Bytes
  | [] => []
  | (d, l) :: rest => encw d ++ l ++ renderC rest

/-- what the reader shows: white space between two encoded-words is not shown -/
def semC : List (Bytes × Bytes) → Bytes
  | [] => []
  | (d, l) :: rest => d ++ (if rest ≠ [] ∧ allWs l = true then [] else l) ++ semC rest

/-- a chain the reader takes apart as it was put together: every word carries 1..45 octets (an encoded-word of at most 75
    characters), no word of a literal text is an encoded-word, and — an encoded-word is a token only between blanks — a
    literal text starts with a blank unless it is empty, and ends with one if another encoded-word follows -/
def WFC : List (Bytes × Bytes) → Prop
  | [] => True
  | (d, l) :: rest => d ≠ [] ∧ d.length ≤ 45 ∧ EncFree l ∧ (l = [] ∨ startsWs l) ∧ (rest ≠ [] → endsWs l) ∧ WFC rest

theorem decode_lit (l : Bytes) (p : Bool) (h : EncFree l) : decToks (tokens l [] false) p = l := by
  have := dec_lit _ [] p h (.inr (.inr rfl))
  rwa [List.append_nil, show decToks [] false = [] from rfl, List.append_nil, tokens_flat] at this

theorem startsWs_append (l x : Bytes) (h : startsWs l) : startsWs (l ++ x) := by
  obtain ⟨a, r, rfl, ha⟩ := h
  exact ⟨a, r ++ x, rfl, ha⟩

theorem tokens_allWs (l : Bytes) (hne : l ≠ []) (h : allWs l = true) : tokens l [] false = [.ws l] := by
  have := tokens_first_run true l [] false hne (fun b hb => List.all_eq_true.mp h b hb) (.inl rfl)
  rwa [List.append_nil] at this

theorem word_begun (l acc : Bytes) (h : acc ≠ []) : ∃ w, Tok.word w ∈ tokens l acc false := by
  induction l generalizing acc with
  | nil => exact ⟨_, by rw [tokens_end acc false h]; exact List.mem_cons_self⟩
  | cons b r ih =>
    cases hb : isWs b with
    | false =>
      rw [tokens_same b r acc false (.inr hb), hb]
      exact ih (b :: acc) (List.cons_ne_nil _ _)
    | true =>
      rw [tokens_diff b r acc false h hb]
      exact ⟨_, List.mem_cons_self⟩

theorem has_word (l acc : Bytes) (c : Bool) (h : allWs l = false) : ∃ w, Tok.word w ∈ tokens l acc c := by
  induction l generalizing acc c with
  | nil => exact absurd h (by decide)
  | cons b r ih =>
    obtain ⟨pre, acc', hne, e⟩ := tokens_step b acc c
    rw [e]
    refine Exists.imp (fun w hw => List.mem_append_right _ hw) ?_
    cases hb : isWs b with
    | false => exact word_begun r acc' hne
    | true => exact ih acc' true (by rwa [allWs, List.all_cons, hb, Bool.true_and] at h)

theorem tokens_chain {d l : Bytes} {rest : List (Bytes × Bytes)} (h : WFC ((d, l) :: rest)) (c : Bool) :
    tokens (renderC ((d, l) :: rest)) [] c = .word (encw d) :: tokens (l ++ renderC rest) [] false := by
  have htail : l ++ renderC rest = [] ∨ startsWs (l ++ renderC rest) := by
    obtain ⟨_, _, _, hstart, hend, _⟩ := h
    rcases hstart with rfl | hs
    · by_cases hr : rest = []
      · subst hr; exact .inl rfl
      · obtain ⟨r, x, e, _⟩ := hend hr
        exact absurd e.symm (by simp)
    · exact .inr (startsWs_append _ _ hs)
  rw [renderC, List.append_assoc]
  exact tokens_first_run false (encw d) _ c nofun (encw_nows d) htail

/-- `p`: the text `l` comes after an encoded-word -/
theorem decode_lit_chain (ch : List (Bytes × Bytes)) (l : Bytes) (p : Bool) (hl : EncFree l)
    (hb : l = [] ∨ ch = [] ∨ endsWs l) (h : WFC ch) :
    decToks (tokens (l ++ renderC ch) [] false) p =
      (if p = true ∧ ch ≠ [] ∧ allWs l = true then [] else l) ++ semC ch := by
  induction ch generalizing l p with
  | nil =>
    rw [renderC, List.append_nil, decode_lit _ _ hl, if_neg (fun h => h.2.1 rfl)]
    exact (List.append_nil _).symm
  | cons dl rest ih =>
    obtain ⟨d, l1⟩ := dl
    have htok := tokens_chain h
    obtain ⟨_, hd45, hfree, _, hend, hrest⟩ := h
    have hdec := encw_dec d hd45
    -- the chain by itself: what follows its first encoded-word comes after an encoded-word
    have hch : ∀ q, decToks (tokens (renderC ((d, l1) :: rest)) [] false) q = semC ((d, l1) :: rest) := fun q => by
      rw [htok, dec_word_enc _ _ _ _ hdec, ih l1 true hfree (.inr (Decidable.or_iff_not_imp_left.mpr hend)) hrest,
        semC]
      simp only [true_and, List.append_assoc]
    by_cases hl0 : l = []
    · subst hl0
      rw [List.nil_append, hch, ite_self]
      rfl
    obtain ⟨x, a, rfl, ha⟩ := (hb.resolve_left hl0).resolve_left (List.cons_ne_nil _ _)
    obtain ⟨y, r, hy, hyw⟩ : ∃ y r, renderC ((d, l1) :: rest) = y :: r ∧ isWs y = false := ⟨61, _, rfl, by decide⟩
    rw [hy, List.append_assoc, List.singleton_append, tokens_cut (by rw [ha]; exact hyw), ← hy]
    cases p with
    | false =>
      rw [if_neg (fun h => Bool.false_ne_true h.1), dec_lit _ _ _ hl (.inl rfl), tokens_flat, hch]
      rfl
    | true =>
      by_cases haw : allWs (x ++ [a]) = true
      · -- white space between two encoded-words
        rw [if_pos ⟨rfl, List.cons_ne_nil _ _, haw⟩, tokens_allWs _ hl0 haw, htok, List.singleton_append,
          dec_ws_drop _ _ _ _ hdec, ← htok false, hch]
        rfl
      · have hw := has_word (x ++ [a]) [] false (Bool.eq_false_iff.mpr haw)
        rw [if_neg (fun h => haw h.2.2), dec_lit _ _ _ hl (.inr (.inl hw)), tokens_flat, hch]
        rfl

theorem decode_segments (l0 : Bytes) (ch : List (Bytes × Bytes)) (h0 : EncFree l0)
    (hb : l0 = [] ∨ ch = [] ∨ endsWs l0) (hc : WFC ch) :
    decToks (tokens (l0 ++ renderC ch) [] false) false = l0 ++ semC ch := by
  have := decode_lit_chain ch l0 false h0 hb hc
  rwa [if_neg (fun h => Bool.false_ne_true h.1)] at this

end LV.Rfc2047Dec
