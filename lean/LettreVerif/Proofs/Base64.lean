import LettreVerif.Proofs.Bytes
import LettreVerif.Model.Base64
/-!
A group is a number `n < 2²⁴`: its sextets are `n / 2¹⁸`, `n / 2¹² % 64`, `n / 2⁶ % 64`, `n % 64`, its octets
`n / 2¹⁶`, `n / 2⁸ % 256`, `n % 256`.  The reader puts the sextets together again, which gives `n` back whatever
`n` is (`sextets`), and cuts the octets off; only that last step looks at how the writer made `n` (`octets`).
-/
namespace LV.Base64

-- `sym` writes 0..25 as `A`.., 26..51 as `a`.., 52..61 as `0`.., 62 and 63 as `+` and `/`; `val` reads each range back
theorem val_sym : ∀ n, n < 64 → val (sym n) = some n := by decide +kernel

theorem sym_ne_pad (n : Nat) (h : n < 64) : sym n ≠ 61 := by
  intro e
  have := val_sym n h
  rw [e] at this
  cases this

theorem val_sextet (m : Nat) : val (sym (m % 64)) = some (m % 64) :=
  val_sym _ (Nat.mod_lt m (by decide))

theorem val_first {n : Nat} (h : n < 16777216) : val (sym (n / 262144)) = some (n / 262144) :=
  val_sym _ (Nat.div_lt_of_lt_mul h)

theorem sextet_join (n k : Nat) : n / (k * 64) * 64 + n / k % 64 = n / k := by
  rw [← Nat.div_div_eq_div_mul, Nat.div_add_mod']

theorem sextets (n : Nat) :
    n / 262144 * 64 + n / 4096 % 64 = n / 4096 ∧
    (n / 262144 * 64 + n / 4096 % 64) * 64 + n / 64 % 64 = n / 64 ∧
    ((n / 262144 * 64 + n / 4096 % 64) * 64 + n / 64 % 64) * 64 + n % 64 = n := by
  rw [sextet_join n 4096, sextet_join n 64, Nat.div_add_mod']
  exact ⟨rfl, rfl, rfl⟩

theorem dec_group {n : Nat} (h : n < 16777216) {r out : Bytes} (hr : dec r = some out) :
    dec (sym (n / 262144) :: sym (n / 4096 % 64) :: sym (n / 64 % 64) :: sym (n % 64) :: r) =
      some (UInt8.ofNat (n / 65536) :: UInt8.ofNat (n / 256 % 256) :: UInt8.ofNat (n % 256) :: out) := by
  rw [dec, if_neg (sym_ne_pad _ (Nat.mod_lt n (by decide))), val_first h, val_sextet, val_sextet, val_sextet, hr]
  simp only [(sextets n).2.2]

/-- when `n` is zero below `j * k`, the sextet `n / j % 64` is zero below `k`: the condition of canonical padding -/
theorem sextet_low {n j k : Nat} (h : n % (j * k) = 0) (hk : k ∣ 64) : n / j % 64 % k = 0 := by
  rw [Nat.mod_mod_of_dvd _ hk, ← Nat.mod_mul_right_div_self, h, Nat.zero_div]

/-- `w x y =`: accepted when the octet that is not there is zero (canonical padding) -/
theorem dec_pad1 {n : Nat} (h : n < 16777216) (h0 : n % 256 = 0) :
    dec [sym (n / 262144), sym (n / 4096 % 64), sym (n / 64 % 64), 61] =
      some [UInt8.ofNat (n / 65536), UInt8.ofNat (n / 256 % 256)] := by
  rw [dec, if_pos rfl, if_pos List.isEmpty_nil, if_neg (sym_ne_pad _ (Nat.mod_lt _ (by decide))), decPad1, val_first h,
    val_sextet, val_sextet]
  dsimp only
  rw [if_pos (sextet_low (j := 64) h0 (by decide)), (sextets n).2.1, Nat.div_div_eq_div_mul, Nat.div_div_eq_div_mul]

/-- `w x = =` -/
theorem dec_pad2 {n : Nat} (h : n < 16777216) (h0 : n % 65536 = 0) :
    dec [sym (n / 262144), sym (n / 4096 % 64), 61, 61] = some [UInt8.ofNat (n / 65536)] := by
  rw [dec, if_pos rfl, if_pos List.isEmpty_nil, if_pos rfl, decPad2, val_first h, val_sextet]
  dsimp only
  rw [if_pos (sextet_low (j := 4096) h0 (by decide)), (sextets n).1, Nat.div_div_eq_div_mul]

/-- `q * k + r` with `r < k`: the last digit to the base `k` is `r`, the digits before it are `q` -/
theorem digit {k q r : Nat} (m : Nat) (hq : q < m) (hr : r < k) :
    q * k + r < m * k ∧ (q * k + r) / k = q ∧ (q * k + r) % k = r :=
  ⟨Nat.lt_of_lt_of_le (Nat.add_lt_add_left hr _) (Nat.succ_mul q k ▸ Nat.mul_le_mul_right k hq),
    (Nat.div_mod_unique (Nat.zero_lt_of_lt hr)).mpr ⟨by rw [Nat.mul_comm, Nat.add_comm], hr⟩⟩

theorem octets {a b c n : Nat} (hn : n = a * 65536 + b * 256 + c) (ha : a < 256) (hb : b < 256) (hc : c < 256) :
    n < 16777216 ∧ n / 65536 = a ∧ n / 256 % 256 = b ∧ n % 256 = c := by
  -- Horner form: cut off `c`, then `b`
  have e : n = (a * 256 + b) * 256 + c := by rw [hn, Nat.add_mul, Nat.mul_assoc]
  obtain ⟨lt1, d1, m1⟩ := digit 256 ha hb
  obtain ⟨lt0, d0, m0⟩ := digit (256 * 256) lt1 hc
  rw [← e] at lt0 d0 m0
  exact ⟨lt0, by rw [← d1, ← d0, Nat.div_div_eq_div_mul], by rw [d0, m1], m0⟩

theorem dec_enc (x : Bytes) : dec (enc x) = some x := by
  fun_induction enc x with
  | case1 a b c rest n ih =>
    obtain ⟨hn, ea, eb, ec⟩ := octets (n := n) rfl a.toNat_lt b.toNat_lt c.toNat_lt
    rw [dec_group hn ih, ea, eb, ec, UInt8.ofNat_toNat, UInt8.ofNat_toNat, UInt8.ofNat_toNat]
  | case2 a b n =>
    obtain ⟨hn, ea, eb, e0⟩ := octets (n := n) (c := 0) (Nat.add_zero _).symm a.toNat_lt b.toNat_lt (by decide)
    rw [dec_pad1 hn e0, ea, eb, UInt8.ofNat_toNat, UInt8.ofNat_toNat]
  | case3 a n =>
    obtain ⟨hn, ea, -, -⟩ := octets (n := n) (b := 0) (c := 0) (by omega) a.toNat_lt (by decide) (by decide)
    rw [dec_pad2 hn (Nat.mul_mod_left ..), ea, UInt8.ofNat_toNat]
  | case4 => rfl

end LV.Base64
