import LettreVerif.Model.Builder
/-!
# C01: the builder's text store refines the typed store, given that addresses survive Display → parse
-/
namespace LV.Builder
open LV LV.Mailbox

/-! ## what Display writes for a name; Display never fails -/

/-- what `write_quoted_string_char` writes for a character of a name, in the grammar's classes: blanks, qtext and
    non-ASCII as they are, every other character (CR and LF among them) as a quoted-pair -/
def esc (c : Char) : List Char := if Peg.isWsp c || (Peg.isQtext c || Peg.nonAscii c) then [c] else ['\\', c]

theorem quotedChar_eq (c : Char) : quotedChar true c = some (esc c) := by
  -- at LF, CR, HTAB and SP both sides are evaluated
  by_cases h : c = '\n' ∨ c = '\r' ∨ c = '\t' ∨ c = ' '
  · rcases h with rfl | rfl | rfl | rfl <;> decide
  · -- elsewhere it is no blank, and the writer's own class decides
    simp only [← Char.toNat_inj, not_or] at h
    obtain ⟨h10, h13, h9, h32⟩ : c.toNat ≠ 10 ∧ c.toNat ≠ 13 ∧ c.toNat ≠ 9 ∧ c.toNat ≠ 32 := h
    have hw : Peg.isWsp c = false := by
      simp only [Peg.isWsp, Bool.or_eq_false_iff, beq_eq_false_iff_ne, ne_eq, ← Char.toNat_inj]
      exact ⟨h32, h9⟩
    rw [esc, hw, Bool.false_or, quotedChar, beq_false_of_ne h10, beq_false_of_ne h13, beq_false_of_ne h9,
      beq_false_of_ne h32, if_neg (by decide), if_neg (by decide), apply_ite some]
    -- that class is the grammar's qtext or non-ASCII: the same ranges, but the writer lists the control characters
    -- (`noWsCtl`) first, the grammar after the printable ones
    refine congrArg (fun b : Bool => if b then _ else _) ?_
    show (Peg.noWsCtl c || _ || _ || _ || _) = _
    rw [Bool.or_assoc (Peg.noWsCtl c), Bool.or_assoc (Peg.noWsCtl c), Bool.or_comm (Peg.noWsCtl c)]
    rfl

theorem mapM_quotedChar (s : List Char) : s.mapM (quotedChar true) = some (s.map esc) := by
  induction s with
  | nil => rfl
  | cons c cs ih => rw [List.mapM_cons, quotedChar_eq, ih]; rfl

/-- what `write_word` writes: the text itself if it consists of atom characters, else a quoted string -/
def wordText (s : List Char) : List Char := if s.all validAtomChar then s else '"' :: (s.map esc).flatten ++ ['"']

theorem writeWord_eq (s : List Char) : writeWord true s = some (wordText s) := by
  rw [writeWord, mapM_quotedChar, wordText]
  split <;> rfl

theorem show1_some (m : MBox) : ∃ t, show1 m = some t := by
  simp only [show1]
  split
  · rename_i n _
    split
    · exact ⟨_, rfl⟩
    · rw [escapeCrLf, writeWord_eq]; exact ⟨_, rfl⟩
  · exact ⟨_, rfl⟩

theorem showList_some (l : List MBox) : ∃ t, showList l = some t := by
  induction l with
  | nil => exact ⟨[], rfl⟩
  | cons m l ih =>
    obtain ⟨a, ha⟩ := show1_some m
    cases l with
    | nil => exact ⟨a, ha⟩
    | cons m' ms =>
      obtain ⟨b, hb⟩ := ih
      exact ⟨a ++ [',', ' '] ++ b, by simp only [showList, ha, hb]; rfl⟩

/-! ## the refinement -/

def emails (l : List MBox) : List (List Char) := l.map (·.email)

/-- addresses of the class `G` survive Display followed by parsing (the part of C17 the builder depends on): a displayed
    list parses back to the same addresses in the same order, a displayed mailbox to the same address -/
structure EmailsRoundTrip (e : Address.Env) (G : List Char → Prop) : Prop where
  list : ∀ (l : List MBox) (t : List Char), l ≠ [] → (∀ m ∈ l, G m.email) → showList l = some t →
    ∃ l', parseList e t = some l' ∧ emails l' = emails l
  one : ∀ (m : MBox) (t : List Char), G m.email → show1 m = some t → ∃ m', parse1 e t = some m' ∧ m'.email = m.email

def Typed.list (t : Typed) : Kind → List MBox
  | .from_ => t.from_ | .to => t.to | .cc => t.cc | .bcc => t.bcc | _ => []

def isListKind (k : Kind) : Bool := k = .from_ || k = .to || k = .cc || k = .bcc

/-- the text store `s` represents the typed store `t` -/
structure Rep (e : Address.Env) (G : List Char → Prop) (s : St) (t : Typed) : Prop where
  noPanic : s.panicked = false
  env : s.envelope = t.envelope
  bcc : s.dropBcc = !t.keepBcc
  lists : ∀ k, isListKind k = true →
    (t.list k = [] ∧ s.texts k = none) ∨
    (t.list k ≠ [] ∧ ∃ txt l', s.texts k = some txt ∧ parseList e txt = some l' ∧ emails l' = emails (t.list k))
  sender : (t.sender = none ∧ s.texts .sender = none) ∨
    (∃ m txt m', t.sender = some m ∧ s.texts .sender = some txt ∧ parse1 e txt = some m' ∧ m'.email = m.email)
  good : ∀ k, ∀ m ∈ t.list k, G m.email

theorem rep_init (e : Address.Env) (G : List Char → Prop) : Rep e G St.init {} :=
  ⟨rfl, rfl, rfl, fun k _ => Or.inl ⟨by cases k <;> rfl, rfl⟩, Or.inl ⟨rfl, rfl⟩, by intro k m hm; cases k <;> simp [Typed.list] at hm⟩

/-! ### what the code reads back from a store that represents `t` -/

section
variable {e : Address.Env} {G : List Char → Prop} {s : St} {t : Typed}

theorem get_list (h : Rep e G s t) (k : Kind) (hk : isListKind k = true) :
    (t.list k = [] ∧ s.get e k = none) ∨ (t.list k ≠ [] ∧ ∃ l', s.get e k = some l' ∧ emails l' = emails (t.list k)) := by
  have hks : k ≠ .sender := by rintro rfl; cases hk
  rcases h.lists k hk with ⟨h1, h2⟩ | ⟨h1, txt, l', h2, h3, h4⟩
  · exact Or.inl ⟨h1, by simp [St.get, h2]⟩
  · exact Or.inr ⟨h1, l', by simp [St.get, h2, hks, h3], h4⟩

theorem get_sender (h : Rep e G s t) :
    (t.sender = none ∧ s.get e .sender = none) ∨
    (∃ m m', t.sender = some m ∧ s.get e .sender = some [m'] ∧ m'.email = m.email) := by
  rcases h.sender with ⟨h1, h2⟩ | ⟨m, txt, m', h1, h2, h3, h4⟩
  · exact Or.inl ⟨h1, by simp [St.get, h2]⟩
  · exact Or.inr ⟨m, m', h1, by simp [St.get, h2, h3], h4⟩

theorem get_emails (h : Rep e G s t) (k : Kind) (hk : isListKind k = true) :
    emails ((s.get e k).getD []) = emails (t.list k) := by
  rcases get_list h k hk with ⟨h1, h2⟩ | ⟨_, l', h2, h3⟩
  · rw [h2, h1]; rfl
  · rw [h2]; exact h3

theorem addrs_eq (h : Rep e G s t) (k : Kind) (hk : isListKind k = true) : s.addrs e k = emails (t.list k) := by
  rw [← get_emails h k hk, St.addrs]
  cases s.get e k <;> rfl

end

/-! ### one builder call -/

theorem texts_set (s : St) (k k' : Kind) (tx : List Char) :
    (s.set k tx).texts k' = if k' = k then some tx else s.texts k' := rfl

theorem specStep_add_list (t : Typed) (k k' : Kind) (m : MBox) :
    (specStep t (.add k m)).list k' = if k' = k then t.list k' ++ (if isListKind k' then [m] else []) else t.list k' := by
  cases k <;> cases k' <;> eq_refl

theorem mem_add_list {t : Typed} {k k' : Kind} {m x : MBox} (hx : x ∈ (specStep t (.add k m)).list k') :
    x ∈ t.list k' ∨ x = m := by
  rw [specStep_add_list] at hx
  split at hx
  · refine (List.mem_append.mp hx).imp_right fun hx => ?_
    split at hx
    · exact List.mem_singleton.mp hx
    · cases hx
  · exact .inl hx

theorem specStep_add_rest (t : Typed) (k : Kind) (m : MBox) :
    (specStep t (.add k m)).sender = (if k = .sender then some m else t.sender) ∧
    (specStep t (.add k m)).envelope = t.envelope ∧ (specStep t (.add k m)).keepBcc = t.keepBcc := by
  cases k <;> exact ⟨rfl, rfl, rfl⟩

theorem step_add (e : Address.Env) (s : St) (k : Kind) (m : MBox) (hp : s.panicked = false) :
    ∃ txt, step e s (.add k m) = s.set k txt ∧
      showList (if k = .sender then [m] else (s.get e k).getD [] ++ [m]) = some txt := by
  by_cases hk : k = .sender
  · obtain ⟨txt, h⟩ := show1_some m
    exact ⟨txt, by simp only [step, hp, hk, h, Bool.false_eq_true, if_false, if_true], by rw [if_pos hk]; exact h⟩
  · obtain ⟨txt, h⟩ := showList_some ((s.get e k).getD [] ++ [m])
    refine ⟨txt, ?_, by rw [if_neg hk]; exact h⟩
    cases hg : s.get e k <;> simp only [hg, Option.getD, List.nil_append] at h <;>
      simp only [step, hp, hk, hg, h, Bool.false_eq_true, if_false]

theorem emails_append (a b : List MBox) : emails (a ++ b) = emails a ++ emails b := List.map_append

theorem good_iff_emails {G : List Char → Prop} {l : List MBox} : (∀ m ∈ l, G m.email) ↔ ∀ a ∈ emails l, G a :=
  List.forall_mem_map.symm

/-- a builder call whose mailbox, if it has one, has its address in the class `G` -/
def GoodOp (G : List Char → Prop) : Op → Prop
  | .add _ m => G m.email
  | _ => True

theorem rep_step {e : Address.Env} {G : List Char → Prop} (hrt : EmailsRoundTrip e G) {s : St} {t : Typed}
    (h : Rep e G s t) (op : Op) (hop : GoodOp G op) : Rep e G (step e s op) (specStep t op) := by
  cases op with
  | keepBcc => exact ⟨h.noPanic, h.env, rfl, h.lists, h.sender, h.good⟩
  | envelope f to => exact ⟨h.noPanic, rfl, h.bcc, h.lists, h.sender, h.good⟩
  | add k m =>
    have hm : G m.email := hop
    obtain ⟨hsend, henv, hkeep⟩ := specStep_add_rest t k m
    obtain ⟨txt, hstep, htxt⟩ := step_add e s k m h.noPanic
    have hgood : ∀ k', ∀ x ∈ (specStep t (.add k m)).list k', G x.email :=
      fun k' x hx => (mem_add_list hx).elim (h.good k' x) fun e => e ▸ hm
    rw [hstep]
    refine ⟨h.noPanic, henv ▸ h.env, hkeep ▸ h.bcc, fun k' hk' => ?_, ?_, hgood⟩
    · -- a list header: the one that was set holds the new list, the others are as before
      have hl := specStep_add_list t k k' m
      rw [texts_set]
      by_cases hkk : k' = k
      · subst hkk
        rw [if_pos rfl, hk', if_pos rfl] at hl
        rw [if_neg (by rintro rfl; cases hk')] at htxt
        have hem : emails ((s.get e k').getD [] ++ [m]) = emails ((specStep t (.add k' m)).list k') := by
          rw [hl, emails_append, emails_append, get_emails h k' hk']
        obtain ⟨l1, hp1, he1⟩ :=
          hrt.list _ txt (List.append_ne_nil_of_right_ne_nil _ (List.cons_ne_nil _ _))
            (good_iff_emails.mpr (hem ▸ good_iff_emails.mp (hgood k'))) htxt
        exact .inr ⟨hl ▸ List.append_ne_nil_of_right_ne_nil _ (List.cons_ne_nil _ _), txt, l1, if_pos rfl, hp1, he1.trans hem⟩
      · rw [hl, if_neg hkk, if_neg hkk]; exact h.lists k' hk'
    · rw [hsend, texts_set]
      by_cases hk : k = .sender
      · subst hk
        obtain ⟨m', hp, hem⟩ := hrt.one m txt hm htxt
        exact .inr ⟨m, txt, m', rfl, rfl, hp, hem⟩
      · rw [if_neg hk, if_neg (Ne.symm hk)]; exact h.sender

theorem rep_run {e : Address.Env} {G : List Char → Prop} (hrt : EmailsRoundTrip e G) (prog : List Op) (s : St) (t : Typed)
    (h : Rep e G s t) (hg : ∀ op ∈ prog, GoodOp G op) : Rep e G (prog.foldl (step e) s) (prog.foldl specStep t) := by
  induction prog generalizing s t with
  | nil => exact h
  | cons op prog ih =>
    obtain ⟨hop, hg⟩ := List.forall_mem_cons.mp hg
    exact ih _ _ (rep_step hrt h op hop) hg

/-! ## `build` -/

/-- the specification's result as an outcome of the code's `build` (which never is `panic`) -/
def conv : Except Err (Env' × Bool) → Outcome
  | .ok (ev, b) => .ok ev b
  | .error er => .err er

section
variable {e : Address.Env} {G : List Char → Prop} {s : St} {t : Typed}

theorem emails_length (a b : List MBox) (h : emails a = emails b) : a.length = b.length := by
  have := congrArg List.length h; simpa [emails] using this

theorem bcc_flag (h : Rep e G s t) : (!s.dropBcc && (s.texts .bcc).isSome) = (t.keepBcc && !t.bcc.isEmpty) := by
  rw [h.bcc]
  rcases h.lists .bcc rfl with ⟨h1, h2⟩ | ⟨h1, txt, _, h2, _, _⟩
  · have : t.bcc = [] := h1
    simp [h2, this]
  · have : t.bcc ≠ [] := h1
    simp [h2, this]

theorem reversePath_eq (h : Rep e G s t) (hfne : t.from_ ≠ []) (hok : ¬ (t.from_.length > 1 ∧ t.sender = none)) :
    s.reversePath e = some (match t.sender with | some m => some m.email | none => t.from_.head?.map (·.email)) := by
  unfold St.reversePath
  rcases get_sender h with ⟨hs1, hs2⟩ | ⟨m, m', hs1, hs2, hs3⟩
  · rcases get_list h .from_ rfl with ⟨hf1, _⟩ | ⟨_, f, hf2, hf3⟩
    · exact absurd hf1 hfne
    · -- a single From mailbox, and a single one read back, with the same address
      have hle : t.from_.length ≤ 1 := Nat.not_lt.mp fun hl => hok ⟨hl, hs1⟩
      obtain ⟨t0, ht0⟩ := List.length_eq_one_iff.mp (Nat.le_antisymm hle (List.length_pos_iff.mpr hfne))
      rw [show t.list .from_ = t.from_ from rfl, ht0] at hf3
      obtain ⟨m0, rfl, he0⟩ := List.map_eq_singleton_iff.mp hf3
      simp [hs2, hs1, hf2, ht0, he0]
  · simp [hs2, hs1, hs3]

theorem tooMany_iff (t : Typed) :
    (decide (t.from_.length > 1) && t.sender.isNone) = true ↔ (t.from_.length > 1 ∧ t.sender = none) := by simp

/-- the five ways `specBuild` can go: the three errors, an explicit envelope, the envelope computed from the headers -/
theorem specBuild_cases (t : Typed) :
    (t.from_ = [] ∧ specBuild t = .error .missingFrom) ∨
    (t.from_ ≠ [] ∧ (t.from_.length > 1 ∧ t.sender = none) ∧ specBuild t = .error .tooManyFrom) ∨
    (t.from_ ≠ [] ∧ ¬ (t.from_.length > 1 ∧ t.sender = none) ∧
      ((∃ ev, t.envelope = some ev ∧ specBuild t = .ok (ev, t.keepBcc && !t.bcc.isEmpty)) ∨
       (t.envelope = none ∧ t.to ++ t.cc ++ t.bcc = [] ∧ specBuild t = .error .missingTo) ∨
       (t.envelope = none ∧ t.to ++ t.cc ++ t.bcc ≠ [] ∧ specBuild t = .ok
         (⟨match t.sender with | some m => some m.email | none => t.from_.head?.map (·.email),
           (t.to ++ t.cc ++ t.bcc).map (·.email)⟩, t.keepBcc && !t.bcc.isEmpty)))) := by
  have hb := tooMany_iff t
  unfold specBuild
  by_cases hf : t.from_ = []
  · exact .inl ⟨hf, by rw [hf]; rfl⟩
  rw [if_neg (by simpa using hf)]
  by_cases hs : t.from_.length > 1 ∧ t.sender = none
  · exact .inr (.inl ⟨hf, hs, by rw [if_pos (hb.mpr hs)]⟩)
  rw [if_neg (mt hb.mp hs)]
  refine .inr (.inr ⟨hf, hs, ?_⟩)
  cases t.envelope with
  | some ev => exact .inl ⟨ev, rfl, rfl⟩
  | none =>
    right
    cases hto : t.to ++ t.cc ++ t.bcc with
    | nil => exact .inl ⟨rfl, rfl, rfl⟩
    | cons x xs => exact .inr ⟨rfl, List.cons_ne_nil _ _, rfl⟩

theorem headerEnvelope_eq (h : Rep e G s t) (hfne : t.from_ ≠ []) (hok : ¬ (t.from_.length > 1 ∧ t.sender = none)) :
    s.headerEnvelope e = if t.to ++ t.cc ++ t.bcc = [] then .error .missingTo else
      .ok ⟨match t.sender with | some m => some m.email | none => t.from_.head?.map (·.email),
        (t.to ++ t.cc ++ t.bcc).map (·.email)⟩ := by
  simp only [St.headerEnvelope, reversePath_eq h hfne hok, addrs_eq h .to rfl, addrs_eq h .cc rfl, addrs_eq h .bcc rfl,
    ← emails_append, Typed.list]
  cases t.to ++ t.cc ++ t.bcc <;> rfl

theorem build_refines (h : Rep e G s t) : build e s = conv (specBuild t) := by
  have hsn : (s.get e .sender).isNone = t.sender.isNone := by
    rcases get_sender h with ⟨hs1, hs2⟩ | ⟨m, m', hs1, hs2, _⟩ <;> simp [hs1, hs2]
  -- what the code reads back for From: nothing, or as many mailboxes as were stored
  have hfrom : (t.from_ = [] ∧ s.get e .from_ = none) ∨ (t.from_ ≠ [] ∧ ∃ f, s.get e .from_ = some f ∧ f.length = t.from_.length) :=
    (get_list h .from_ rfl).imp id fun ⟨h1, f, h2, h3⟩ => ⟨h1, f, h2, emails_length _ _ h3⟩
  unfold build
  simp only [h.noPanic, Bool.false_eq_true, if_false, hsn, h.env, bcc_flag h]
  rcases specBuild_cases t with ⟨hf, h'⟩ | ⟨hf, hs, h'⟩ | ⟨hf, hs, hcases⟩
  · rcases hfrom with ⟨_, hg⟩ | ⟨hne, _⟩
    · rw [hg, h']; rfl
    · exact absurd hf hne
  all_goals
    rcases hfrom with ⟨hnil, _⟩ | ⟨_, f, hg, hlen⟩
    · exact absurd hnil hf
    rw [hg]
    simp only [hlen]
  · rw [if_pos ((tooMany_iff t).mpr hs), h']; rfl
  · rw [if_neg (mt (tooMany_iff t).mp hs)]
    rcases hcases with ⟨ev, he, h'⟩ | ⟨he, hto, h'⟩ | ⟨he, hto, h'⟩ <;> rw [h', he]
    · rfl
    · simp only [headerEnvelope_eq h hf hs, if_pos hto]; rfl
    · simp only [headerEnvelope_eq h hf hs, if_neg hto]; rfl

end

end LV.Builder
