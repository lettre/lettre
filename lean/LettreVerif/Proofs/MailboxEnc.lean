import LettreVerif.Model.MailboxEnc
import LettreVerif.Proofs.Rfc2047Enc
/-!
# The mailbox header writer (Model/MailboxEnc.lean): what the strategy chosen by `quoted_string::encode` says about a
name, and the line lengths of a list of bare addresses (`Tracks`, which Proofs/TextFold.lean uses as well)
-/
namespace LV.MailboxEnc
open LV LV.HeaderEnc

/-- a scanning loop that continues where a narrower one stopped has seen the whole text -/
theorem all_of_dropWhile {p q : Byte → Bool} (hpq : ∀ b, p b = true → q b = true) {l : Bytes}
    (h : ∀ b ∈ l.dropWhile p, q b = true) : ∀ b ∈ l, q b = true := by
  intro b hb
  rw [← List.takeWhile_append_dropWhile (p := p) (l := l)] at hb
  rcases List.mem_append.mp hb with hb | hb
  · exact hpq b (List.all_eq_true.mp List.all_takeWhile b hb)
  · exact h b hb

theorem all_of_dropWhile_nil {p : Byte → Bool} {l : Bytes} (h : (l.dropWhile p).isEmpty = true) : ∀ b ∈ l, p b = true :=
  all_of_dropWhile (fun _ h => h) (by rw [List.isEmpty_iff.mp h]; exact fun _ h => nomatch h)

/-- the name lies in the class of the first scanning loop that reached its end (what the classes mean to a reader:
    `alnum_class`, `class_quoted`, `class_escaped` in `Proofs/Wire.lean`) -/
theorem strategy_spec (v : Bytes) :
    match strategy v with
    | .plain => ∀ b ∈ v, (isAlnum b || isPlus b) = true
    | .quoted => ∀ b ∈ v, (isAlnum b || b == 32 || isPlus b) = true
    | .quotedEscaped => ∀ b ∈ v, (isAlnum b || b == 92 || b == 34 || b == 32 || isPlus b) = true
    | .rfc2047 => v ≠ [] := by
  have h12 : ∀ b, (isAlnum b || isPlus b) = true → (isAlnum b || b == 32 || isPlus b) = true := by
    intro b h
    simp only [Bool.or_eq_true] at h ⊢
    exact h.imp Or.inl id
  have h23 : ∀ b, (isAlnum b || b == 32 || isPlus b) = true →
      (isAlnum b || b == 92 || b == 34 || b == 32 || isPlus b) = true := by
    intro b h
    simp only [Bool.or_eq_true] at h ⊢
    exact h.imp (Or.imp (fun h => .inl (.inl h)) id) id
  unfold strategy
  simp only
  by_cases e1 : (v.dropWhile fun b => isAlnum b || isPlus b).isEmpty = true
  · rw [if_pos e1]; exact all_of_dropWhile_nil e1
  rw [if_neg e1]
  by_cases e2 : ((v.dropWhile fun b => isAlnum b || isPlus b).dropWhile fun b => isAlnum b || b == 32 || isPlus b).isEmpty = true
  · rw [if_pos e2]; exact all_of_dropWhile h12 (all_of_dropWhile_nil e2)
  rw [if_neg e2]
  by_cases e3 : (((v.dropWhile fun b => isAlnum b || isPlus b).dropWhile fun b => isAlnum b || b == 32 || isPlus b).dropWhile
      fun b => isAlnum b || b == 92 || b == 34 || b == 32 || isPlus b).isEmpty = true
  · rw [if_pos e3]
    exact all_of_dropWhile (fun b h => h23 b (h12 b h)) (all_of_dropWhile h23 (all_of_dropWhile_nil e3))
  rw [if_neg e3]
  intro e
  subst e
  exact e1 rfl

/-! ## line lengths: a list of bare addresses -/
open LV.HeaderReader

theorem linesOkGo_plain (lim : Nat) (xs : Bytes) (cur : Nat) (r : Bytes) (h : Plain xs) :
    linesOkGo true lim cur (xs ++ r) = linesOkGo true lim (cur + xs.length) r := by
  induction xs generalizing cur with
  | nil => simp
  | cons b xs ih =>
    have hb : (b.toNat == 9 || (32 ≤ b.toNat && b.toNat ≤ 126)) = true := h b List.mem_cons_self
    have hne : b ≠ 13 := printable_not_cr b hb
    have ih := ih (cur + 1) (fun x hx => h x (List.mem_cons_of_mem _ hx))
    rw [List.cons_append, linesOkGo.eq_3 _ _ _ _ _ (by intro r' e _; exact hne e)]
    rw [ih, hb, Bool.true_or, Bool.true_and, List.length_cons, Nat.add_assoc, Nat.add_comm 1]

theorem linesOkGo_crlf (lim cur : Nat) (r : Bytes) :
    linesOkGo true lim cur (13 :: 10 :: r) = (decide (cur ≤ lim) && linesOkGo true lim 0 r) := by
  rw [linesOkGo.eq_2]

/-- what has been written keeps every finished line within `lim` (the line started with `c0` octets, the field name), and
    `lineLen` is the length of the unfinished line. `linesOkGo true` (non-ASCII allowed) is the form of the `Props/C02.lean`
    theorems; for the printable ASCII followed here the flag makes no difference. -/
def Tracks (lim c0 : Nat) (w : W) : Prop :=
  ∀ rest, linesOkGo true lim c0 (w.bytes ++ rest) = linesOkGo true lim w.lineLen rest

variable {lim c0 : Nat} {w : W}

theorem tracks_start (lim c0 : Nat) : Tracks lim c0 ⟨[], c0, 0, false⟩ := fun rest => by simp [W.bytes]

theorem tracks_space (h : Tracks lim c0 w) : Tracks lim c0 w.space := h

theorem tracks_writeStr (h : Tracks lim c0 w) (s : Bytes) (hs : Plain s) : Tracks lim c0 (w.writeStr s) := by
  intro rest
  rw [bytes_writeStr, bytes_flush, lineLen_writeStr, List.append_assoc, List.append_assoc, h, linesOkGo_plain _ _ _ _ (plain_spaces _),
    linesOkGo_plain _ _ _ _ fun b hb => hs b (trimEnd_sub s b hb), List.length_replicate]

theorem tracks_newLine (h : Tracks lim c0 w) (hl : w.lineLen ≤ lim) : Tracks lim c0 w.newLine := by
  intro rest
  rw [bytes_newLine, List.append_assoc, h]
  simp only [List.cons_append, List.nil_append, linesOkGo_crlf, W.newLine, hl, decide_true, Bool.true_and]

/-- `c` stands for the condition under which the caller breaks the line first: that of `emitTok` or that of
    `writeUnbreakable` -/
theorem tracks_token (h : Tracks lim c0 w) (hl : w.lineLen ≤ lim) (c : Prop) [Decidable c] (t : Bytes) (hp : Plain t)
    (h32 : ∀ b ∈ t, b ≠ 32) :
    Tracks lim c0 ((if c then w.newLine else w).writeStr t) ∧ ((if c then w.newLine else w).writeStr t).spaces = 0 ∧
      ((if c then w.newLine else w).writeStr t).lineLen = (if c then 0 else w.lineLen) + w.spaces + t.length := by
  refine ⟨?_, (writeStr_nospace _ t h32).1, ?_⟩
  · split
    · exact tracks_writeStr (tracks_newLine h hl) t hp
    · exact tracks_writeStr h t hp
  · rw [(writeStr_nospace _ t h32).2]
    split <;> rfl

theorem tracks_end (h : Tracks lim c0 w) (hs : w.spaces = 0) (hl : w.lineLen ≤ lim) :
    linesOkGo true lim c0 (w.flushSpaces.bytes ++ [13, 10]) = true := by
  rw [bytes_flush, hs, List.replicate_zero, List.append_nil, h, linesOkGo_crlf]
  simp [linesOkGo, hl]

structure AfterAddr (c0 : Nat) (w : W) : Prop where
  tracks : Tracks 78 c0 w
  len : w.lineLen ≤ 76
  sp : w.spaces = 0

/-- 75: with the blank in front of it an address still fits a line of `maxLineLen` = 76 octets, the limit `write_unbreakable`
    tests -/
def AddrOk (a : Bytes) : Prop := Plain a ∧ (∀ b ∈ a, b ≠ 32) ∧ a.length ≤ 75

/-- written where the writer stands or, if that is allowed and it does not fit, on a new line: there it fits, after at
    most one blank -/
theorem address_fits {a : Bytes} (ha : AddrOk a) (h : Tracks 78 c0 w) (hl : w.lineLen ≤ 77) (hs : w.spaces ≤ 1)
    (hf : w.spaces = 0 → w.lineLen + a.length ≤ 76) : AfterAddr c0 (writeUnbreakable w a) := by
  have hfit : (if w.spaces > 0 ∧ w.lineLen > 0 ∧ w.lineLen + w.spaces + a.length > maxLineLen then 0 else w.lineLen) +
      w.spaces + a.length ≤ 76 := by
    have hlen := ha.2.2
    have h76 : maxLineLen = 76 := rfl
    split <;> omega
  obtain ⟨t, s, l⟩ := tracks_token h (Nat.le_succ_of_le hl)
    (w.spaces > 0 ∧ w.lineLen > 0 ∧ w.lineLen + w.spaces + a.length > maxLineLen) a ha.1 ha.2.1
  unfold writeUnbreakable
  simp only [Bool.and_eq_true, decide_eq_true_eq, and_assoc]
  exact ⟨t, l ▸ hfit, s⟩

theorem rest_addresses : ∀ (as : List Bytes) {w : W}, AfterAddr c0 w → (∀ a ∈ as, AddrOk a) →
    AfterAddr c0 (mailboxesEncode w (as.map fun a => (none, a)) false) := by
  intro as
  induction as with
  | nil => exact fun h _ => h
  | cons a as ih =>
    intro w h ha
    have hc := writeStr_nospace w [44] (by decide)
    simp only [List.map_cons, mailboxesEncode, Bool.false_eq_true, if_false, mailboxEncode]
    -- after the comma a blank is pending: the address may go to a new line
    refine ih (address_fits (ha a List.mem_cons_self) (w := (writeChar w 44).space)
      (tracks_space (tracks_writeStr h.tracks [44] (by decide))) ?_ ?_ fun h0 => absurd h0 (Nat.succ_ne_zero _))
      (fun y hy => ha y (List.mem_cons_of_mem _ hy))
    · show (w.writeStr [44]).lineLen ≤ 77
      rw [hc.2, h.sp]
      exact Nat.succ_le_succ h.len
    · show (w.writeStr [44]).spaces + 1 ≤ 1
      rw [hc.1]
      exact Nat.le_refl 1

/-- `C02.address_list_folded` -/
theorem address_list_lines (nameLen : Nat) (as : List Bytes) (ha : ∀ a ∈ as, AddrOk a)
    (hfirst : ∀ a, as.head? = some a → nameLen + 2 + a.length ≤ 76) (hname : nameLen + 2 ≤ 76) :
    linesOkGo true 78 (nameLen + 2) (headerValue nameLen (as.map fun a => (none, a)) ++ [13, 10]) = true := by
  have fin : ∀ {w : W}, AfterAddr (nameLen + 2) w →
      linesOkGo true 78 (nameLen + 2) (w.flushSpaces.bytes ++ [13, 10]) = true :=
    fun h => tracks_end h.tracks h.sp (Nat.le_trans h.len (by decide))
  unfold headerValue
  cases as with
  | nil => exact fin ⟨tracks_start _ _, hname, rfl⟩
  | cons a as =>
    simp only [List.map_cons, mailboxesEncode, if_true, mailboxEncode]
    exact fin (rest_addresses as
      (address_fits (ha a List.mem_cons_self) (tracks_start _ _) (Nat.le_succ_of_le hname) (Nat.zero_le 1) fun _ => hfirst a rfl)
      fun y hy => ha y (List.mem_cons_of_mem _ hy))

end LV.MailboxEnc
