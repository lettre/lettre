import LettreVerif.Proofs.Bytes
import LettreVerif.Model.ServerInfo
/-!
# What `ServerInfo::from_response` records (C15)

`scan` folds a per-line update over the reply's lines, and every field of the result but the name only ever goes from
`false` to `true`: it is the `or` of a predicate over the lines.  The two per-line facts are proved alike: the keywords are
pairwise distinct (`d1 …`, by evaluation); then, by cases on which keyword the word is (or none), `simp` evaluates the `if`
chain of the model and the `==` of `announces` / `authLists`.
-/
namespace LV.ServerInfo

/-- the line announces keyword `k` (its first word) -/
def announces (k : List Char) (l : List Char) : Bool := (words l).head? == some k
/-- the line is an `AUTH` line listing mechanism `m` -/
def authLists (m : List Char) (l : List Char) : Bool :=
  match words l with
  | w :: rest => w == kwAUTH && rest.contains m
  | [] => false

theorem addMechs_spec (i : Info) (ms : List (List Char)) :
    (addMechs i ms).eightBit = i.eightBit ∧ (addMechs i ms).smtpUtf8 = i.smtpUtf8 ∧
    (addMechs i ms).startTls = i.startTls ∧
    (addMechs i ms).plain = (i.plain || ms.contains kwPLAIN) ∧
    (addMechs i ms).login = (i.login || ms.contains kwLOGIN) ∧
    (addMechs i ms).xoauth2 = (i.xoauth2 || ms.contains kwXOAUTH2) := by
  have d1 : (kwLOGIN == kwPLAIN) = false := by decide
  have d2 : (kwXOAUTH2 == kwPLAIN) = false := by decide
  have d3 : (kwXOAUTH2 == kwLOGIN) = false := by decide
  have ne {k m : List Char} (h : ¬m = k) : (k == m) = false := beq_eq_false_iff_ne.mpr (Ne.symm h)
  induction ms generalizing i with
  | nil => simp [addMechs]
  | cons m ms ih =>
    simp only [addMechs, List.contains_cons, ih]
    by_cases h0 : m = kwPLAIN
    · subst h0; simp [d1, d2]
    by_cases h1 : m = kwLOGIN
    · subst h1; simp [h0, ne h0, d3]
    by_cases h2 : m = kwXOAUTH2
    · subst h2; simp [h0, h1, ne h0, ne h1]
    · simp [h0, h1, h2, ne h0, ne h1, ne h2]

theorem words_nil : words [] = [] := rfl

/-- what `scan` does with one line -/
def line (i : Info) (l : List Char) : Info :=
  match words l with
  | [] => i
  | w :: rest =>
    if w = kw8BITMIME then { i with eightBit := true }
    else if w = kwSMTPUTF8 then { i with smtpUtf8 := true }
    else if w = kwSTARTTLS then { i with startTls := true }
    else if w = kwAUTH then addMechs i rest
    else i

theorem scan_cons (i : Info) (l : List Char) (ls : List (List Char)) : scan i (l :: ls) = scan (line i l) ls := by
  unfold line
  cases l with
  | nil => rfl
  | cons c cs =>
    show (match words (c :: cs) with | [] => _ | w :: rest => _) = _
    cases words (c :: cs) <;> rfl

theorem scan_or (g : Info → Bool) (q : List Char → Bool) (h : ∀ i l, g (line i l) = (g i || q l))
    (i : Info) (ls : List (List Char)) : g (scan i ls) = (g i || ls.any q) := by
  induction ls generalizing i with
  | nil => simp [scan]
  | cons l ls ih => rw [scan_cons, ih, h, List.any_cons, Bool.or_assoc]

theorem line_spec (i : Info) (l : List Char) :
    (line i l).eightBit = (i.eightBit || announces kw8BITMIME l) ∧
    (line i l).smtpUtf8 = (i.smtpUtf8 || announces kwSMTPUTF8 l) ∧
    (line i l).startTls = (i.startTls || announces kwSTARTTLS l) ∧
    (line i l).plain = (i.plain || authLists kwPLAIN l) ∧
    (line i l).login = (i.login || authLists kwLOGIN l) ∧
    (line i l).xoauth2 = (i.xoauth2 || authLists kwXOAUTH2 l) := by
  have d1 : (kw8BITMIME == kwSMTPUTF8) = false := by decide
  have d2 : (kw8BITMIME == kwSTARTTLS) = false := by decide
  have d3 : (kw8BITMIME == kwAUTH) = false := by decide
  have d4 : (kwSMTPUTF8 == kwSTARTTLS) = false := by decide
  have d5 : (kwSMTPUTF8 == kwAUTH) = false := by decide
  have d6 : (kwSTARTTLS == kwAUTH) = false := by decide
  have ne {k w : List Char} (h : ¬w = k) : (w == k) = false := beq_eq_false_iff_ne.mpr h
  unfold line announces authLists
  cases words l with
  | nil => simp
  | cons w rest =>
    simp only [List.head?_cons]
    by_cases h0 : w = kw8BITMIME
    · subst h0; simp [d1, d2, d3]
    by_cases h1 : w = kwSMTPUTF8
    · subst h1; simp [h0, ne h0, d4, d5]
    by_cases h2 : w = kwSTARTTLS
    · subst h2; simp [h0, h1, ne h0, ne h1, d6]
    by_cases h3 : w = kwAUTH
    · subst h3; simp [h0, h1, h2, ne h0, ne h1, ne h2, addMechs_spec i rest]
    · simp [h0, h1, h2, h3, ne h0, ne h1, ne h2, ne h3]

end LV.ServerInfo
