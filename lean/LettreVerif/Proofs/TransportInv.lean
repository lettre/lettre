import LettreVerif.Proofs.TransportOnce
/-!
# What is parked is healthy (C08 / C20, sequential transport)

`Coherent c`: a connection that has been shut is marked broken.  `PoolInv p`: every connection of the transport is
coherent, the idle list names each parked connection once, and every parked connection is unbroken — hence open.  The
invariant holds for the empty pool and is kept by `send_raw`, whatever the peers do.
-/
namespace LV.Transport
open LV LV.Client

def Coherent (c : Conn) : Prop := c.shut = true → c.panic = true

theorem coherent_of_open {c : Conn} (h : c.shut = false) : Coherent c := fun hs => by rw [h] at hs; cases hs

theorem coherent_wrote {c c' : Conn} {us : List Bytes} {k : Nat} (h : Wrote c c' us k) (hc : Coherent c) : Coherent c' := by
  unfold Coherent
  rw [h.shut, h.panic]
  exact hc

theorem coherent_closed {c c' : Conn} {us : List Bytes} {k : Nat} (h : Closed c c' us k) : Coherent c' := fun _ => h.panic

theorem coherent_greet (c : Conn) (hello : Bytes) (h : c.shut = false) : Coherent (c.greet hello).1 := by
  rcases greet_spec c hello h with ⟨c', e, h1, hw⟩ | ⟨c', i, h1, hw⟩ | ⟨c', e, h1, hc⟩ <;> rw [h1]
  · exact coherent_wrote hw (coherent_of_open h)
  · exact coherent_of_open (hw.shut.trans h)
  · exact coherent_closed hc

theorem coherent_send (c : Conn) (f : Option Bytes) (to : List Bytes) (m : Bytes) (h : c.shut = false) :
    Coherent (c.send f to m).1 := by
  rcases send_spec c f to m h with ⟨h1, _⟩ | ⟨c1, r, h1, _, hw, hx⟩ | ⟨c', e, us, h1, hc, _⟩ <;> rw [h1]
  · exact coherent_of_open h
  · exact coherent_of_open ((hw.trans hx).shut.trans h)
  · exact coherent_closed hc

/-- `PoolInv` with any list `l` for `p.idle`: the induction of `acquire` needs it -/
structure ListInv (p : Pool) (l : List Nat) : Prop where
  coh : ∀ c ∈ p.conns, Coherent c
  nodup : l.Nodup
  healthy : ∀ i ∈ l, ∃ c, p.conns[i]? = some c ∧ c.panic = false

def PoolInv (p : Pool) : Prop := ListInv p p.idle

theorem listInv_setConn (p : Pool) (l : List Nat) (i : Nat) (c : Conn) (h : ListInv p l) (hi : i ∉ l) (hc : Coherent c) :
    ListInv (p.setConn i c) l where
  coh c' hm := by
    rcases List.mem_or_eq_of_mem_set hm with h1 | h1
    · exact h.coh c' h1
    · exact h1 ▸ hc
  nodup := h.nodup
  healthy j hj := by
    rw [getElem?_setConn_ne p i j c (fun e => hi (e ▸ hj))]
    exact h.healthy j hj

theorem open_inv (p : Pool) (h : ∀ c ∈ p.conns, Coherent c) :
    (∀ c ∈ p.open.1.conns, Coherent c) ∧ p.open.1.idle = p.idle := by
  rcases open_spec p with h1 | ⟨c0, hs, _, _, h1, _⟩ <;> rw [h1]
  · exact ⟨h, rfl⟩
  · refine ⟨fun c hm => ?_, rfl⟩
    rcases List.mem_append.mp hm with hm | hm
    · exact h c hm
    · rw [List.mem_singleton.mp hm]; exact coherent_greet c0 p.hello hs

namespace ListInv
theorem tail {p : Pool} {i : Nat} {l : List Nat} (h : ListInv p (i :: l)) : ListInv p l :=
  ⟨h.coh, (List.nodup_cons.mp h.nodup).2, fun j hj => h.healthy j (List.mem_cons_of_mem _ hj)⟩
end ListInv

theorem acquire_inv (p : Pool) (l : List Nat) (h : ListInv p l) :
    PoolInv (p.acquire l).1 ∧ (∀ i, (p.acquire l).2.1 = some i → i ∉ (p.acquire l).1.idle) := by
  -- cases as in `acquire_data` (Proofs/TransportOnce.lean)
  fun_induction Pool.acquire p l with
  | case1 p =>
    have ho := open_inv { p with idle := [] } h.coh
    exact ⟨⟨ho.1, by rw [ho.2]; exact List.nodup_nil, fun i hi => by rw [ho.2] at hi; cases hi⟩,
      fun i _ => by rw [ho.2]; exact List.not_mem_nil⟩
  | case2 p i rest _ ih => exact ih h.tail
  | case3 p i rest c hc c' htc =>
    have hi := (List.nodup_cons.mp h.nodup).1
    have := listInv_setConn p rest i c' h.tail hi
      (coherent_wrote (testConnected_wrote htc).1 (h.coh c (List.mem_of_getElem? hc)))
    exact ⟨⟨this.coh, this.nodup, this.healthy⟩, fun j hj => by cases hj; exact hi⟩
  | case4 p i rest c hc c' ok htc _ ih =>
    exact ih (listInv_setConn p rest i c'.abort h.tail (List.nodup_cons.mp h.nodup).1 (coherent_closed (abort_closed c')))

theorem recycle_inv (p : Pool) (i : Nat) (h : PoolInv p) (hi : i ∉ p.idle) : PoolInv (p.recycle i) := by
  rcases recycle_cases p i with h1 | ⟨c, hc, h1⟩ | ⟨c, hc, hp, h1⟩ <;> rw [h1]
  · exact h
  · exact listInv_setConn p p.idle i c.abort h hi (coherent_closed (abort_closed c))
  · exact ⟨h.coh, List.nodup_cons.mpr ⟨hi, h.nodup⟩, fun j hj => by
      rcases List.mem_cons.mp hj with e | hj
      · subst e; exact ⟨c, hc, hp⟩
      · exact h.healthy j hj⟩

theorem sendRaw_inv (p : Pool) (f : Option Bytes) (to : List Bytes) (m : Bytes) (h : PoolInv p) :
    PoolInv (p.sendRaw f to m).1 := by
  have ha := acquire_inv p p.idle h
  rcases sendRaw_cases p f to m with ⟨e, h1⟩ | ⟨p1, i, c, h1, hc, hs, h2⟩
  · rw [h1]; exact ha.1
  · rw [h2]
    rw [h1] at ha
    have hi := ha.2 i rfl
    exact recycle_inv _ i (listInv_setConn p1 p1.idle i _ ha.1 hi (coherent_send c f to m hs)) hi

theorem inv_empty (scripts : List (List Step)) (maxSize : Nat) (hello : Bytes) (stall : Bool) :
    PoolInv { conns := [], idle := [], scripts := scripts, maxSize := maxSize, hello := hello, stallAtEnd := stall } :=
  { coh := fun _ hc => by simp at hc, nodup := List.nodup_nil, healthy := fun _ hi => by simp at hi }

theorem parked_healthy (p : Pool) (h : PoolInv p) (i : Nat) (hi : i ∈ p.idle) :
    ∃ c, p.conns[i]? = some c ∧ c.panic = false ∧ c.shut = false := by
  obtain ⟨c, hc, hp⟩ := h.healthy i hi
  refine ⟨c, hc, hp, Bool.eq_false_iff.mpr fun hs => ?_⟩
  have := h.coh c (List.mem_of_getElem? hc) hs
  rw [hp] at this
  cases this

end LV.Transport
