import LettreVerif.Proofs.HeaderEnc
/-!
# Every Rust `str` satisfies `ContRunsLe3`

A Rust `str` is the UTF-8 encoding of a sequence of scalar values (`List Char`); Lean's own encoder
(`String.utf8EncodeChar`, the function behind `String.toUTF8`) writes one lead octet — never of the form `10xxxxxx` —
followed by at most three more octets per character.
-/
namespace LV.Utf8Runs
open LV LV.HeaderEnc

theorem contRuns_cons {b : Byte} {s : Bytes}
    (h0 : ¬ (isCont b = true ∧ isCont (s.getD 0 0) = true ∧ isCont (s.getD 1 0) = true ∧ isCont (s.getD 2 0) = true))
    (h : ContRunsLe3 s) : ContRunsLe3 (b :: s)
  | 0 => h0
  | i + 1 => h i

/-- at most three octets, of whatever kind, before a lead octet or the end: every window that starts among them reaches it -/
theorem contRuns_short {rest : Bytes} (h0 : isCont (rest.getD 0 0) = false) (h : ContRunsLe3 rest) :
    ∀ (t : Bytes), t.length ≤ 3 → ContRunsLe3 (t ++ rest) := by
  have lead : ¬ isCont (rest.getD 0 0) = true := fun c => Bool.false_ne_true (h0.symm.trans c)
  intro t ht
  rcases t with _ | ⟨_, _ | ⟨_, _ | ⟨_, _ | ⟨_, _⟩⟩⟩⟩
  · exact h
  · exact contRuns_cons (fun c => lead c.2.1) h
  · exact contRuns_cons (fun c => lead c.2.2.1) (contRuns_cons (fun c => lead c.2.1) h)
  · exact contRuns_cons (fun c => lead c.2.2.2) (contRuns_cons (fun c => lead c.2.2.1) (contRuns_cons (fun c => lead c.2.1) h))
  · exact absurd ht (by simp)

theorem lead_table : (List.range 256).all (fun n => (decide (n < 128) || decide (192 ≤ n)) → isCont (UInt8.ofNat n) = false) = true := by
  decide +kernel

theorem lead_not_cont (n : Nat) (h : n < 128 ∨ (192 ≤ n ∧ n < 256)) : isCont (UInt8.ofNat n) = false := by
  have hn : n < 256 := h.elim (fun h => Nat.lt_trans h (by decide)) (·.2)
  have := List.all_eq_true.mp lead_table n (List.mem_range.mpr hn)
  simp only [Bool.or_eq_true, decide_eq_true_eq] at this
  exact this (h.imp_right (·.1))

/-- a character: one lead octet — `x % m + a` with the tag `a` — and at most three more -/
theorem encodeChar_block (c : Char) : ∃ lead t, String.utf8EncodeChar c = lead :: t ∧ isCont lead = false ∧ t.length ≤ 3 := by
  have tag : ∀ x m a, 0 < m → 192 ≤ a → m + a ≤ 256 → isCont (UInt8.ofNat (x % m + a)) = false := fun x m a hm ha h =>
    lead_not_cont _ (.inr ⟨Nat.le_trans ha (Nat.le_add_left _ _),
      Nat.lt_of_lt_of_le (Nat.add_lt_add_right (Nat.mod_lt _ hm) _) h⟩)
  by_cases h1 : c.val.toNat ≤ 127
  · exact ⟨_, [], if_pos h1, lead_not_cont _ (.inl (Nat.lt_succ_of_le h1)), Nat.zero_le _⟩
  by_cases h2 : c.val.toNat ≤ 2047
  · exact ⟨_, _, (if_neg h1).trans (if_pos h2), tag _ 32 192 (by decide) (by decide) (by decide), (by decide : 1 ≤ 3)⟩
  by_cases h3 : c.val.toNat ≤ 65535
  · exact ⟨_, _, (if_neg h1).trans ((if_neg h2).trans (if_pos h3)), tag _ 16 224 (by decide) (by decide) (by decide),
      (by decide : 2 ≤ 3)⟩
  · exact ⟨_, _, (if_neg h1).trans ((if_neg h2).trans (if_neg h3)), tag _ 8 240 (by decide) (by decide) (by decide),
      Nat.le_refl 3⟩

/-- the second conjunct carries the induction: what follows a character is empty or starts with a lead octet -/
theorem contRuns_chars (l : List Char) :
    ContRunsLe3 (l.flatMap String.utf8EncodeChar) ∧ isCont ((l.flatMap String.utf8EncodeChar).getD 0 0) = false := by
  induction l with
  | nil => exact ⟨fun _ h => absurd (show isCont 0 = true from h.1) (by decide), rfl⟩
  | cons c cs ih =>
    obtain ⟨lead, t, e, hl, ht⟩ := encodeChar_block c
    obtain ⟨h, h0⟩ := ih
    rw [List.flatMap_cons, e]
    exact ⟨contRuns_cons (fun c => Bool.false_ne_true (hl.symm.trans c.1)) (contRuns_short h0 h t ht), hl⟩

/-- the octets of a Rust `str` given as its characters (what `str::as_bytes` returns) -/
theorem encodeUtf8_eq (l : List Char) : encodeUtf8 l = l.flatMap String.utf8EncodeChar := by
  simp [encodeUtf8, String.toUTF8, String.ofList, List.utf8Encode]

theorem contRuns_str (l : List Char) : ContRunsLe3 (encodeUtf8 l) := by
  rw [encodeUtf8_eq]; exact (contRuns_chars l).1

end LV.Utf8Runs

namespace LV.HeaderEnc
open LV LV.Utf8Runs

theorem isCont_ascii (b : Byte) (hb : b.toNat < 128) : isCont b = false := by
  have := lead_not_cont b.toNat (.inl hb)
  rwa [UInt8.ofNat_toNat] at this

theorem printable_contRuns (v : Bytes) (h : ∀ c ∈ v, printable c = true) : ContRunsLe3 v := by
  induction v with
  | nil => exact fun _ h => absurd (show isCont 0 = true from h.1) (by decide)
  | cons b r ih =>
    obtain ⟨hb, hr⟩ := List.forall_mem_cons.mp h
    simp only [printable, Bool.or_eq_true, beq_iff_eq, Bool.and_eq_true, decide_eq_true_eq] at hb
    exact contRuns_cons (fun c => Bool.false_ne_true ((isCont_ascii b (by omega)).symm.trans c.1)) (ih hr)

end LV.HeaderEnc
