import LettreVerif.Model.DateText
import LettreVerif.Proofs.Date
/-!
# Proofs about the text of the Date header (Model/DateText.lean): the parser reads back what `Display` writes
-/
namespace LV.DateText
open LV.Date LV.DateProof

theorem dg_digit (n : Nat) : digit? (dg n) = some (n % 10) := by
  have : ∀ k < 10, digit? ((48 + k).toUInt8) = some k := by decide +kernel
  exact this (n % 10) (Nat.mod_lt n (by decide))

theorem int2_dg (n : Nat) (h : n < 100) : int2 (dg (n / 10)) (dg n) = some n := by
  simp only [int2, dg_digit]
  congr 1
  rw [Nat.mod_eq_of_lt (Nat.div_lt_of_lt_mul h), Nat.div_add_mod']

theorem int4_dg (n : Nat) (h : n < 10000) : int4 (dg (n / 1000)) (dg (n / 100)) (dg (n / 10)) (dg n) = some n := by
  simp only [int4, dg_digit]
  congr 1
  -- a digit at a time: `n / 100 = n / 10 / 10`, `n / 1000 = n / 100 / 10`
  rw [← Nat.div_div_eq_div_mul n 100 10, ← Nat.div_div_eq_div_mul n 10 10]
  omega

theorem wday3_three (w : Nat) : ∃ a b c, wday3 w = [a, b, c] := by
  fun_cases wday3 w <;> exact ⟨_, _, _, rfl⟩

theorem mon3_three (m : Nat) : ∃ a b c, mon3 m = [a, b, c] := by
  fun_cases mon3 m <;> exact ⟨_, _, _, rfl⟩

theorem wdayOf_wday3 : ∀ w < 8, 1 ≤ w → wdayOf (wday3 w) = some w := by decide +kernel

theorem monOf_mon3 : ∀ m < 13, 1 ≤ m → monOf (mon3 m) = some m := by decide +kernel

theorem parseImf_stem (c : Civil) (hs : c.sec < 100) (hm : c.min < 100) (hh : c.hour < 100) (hd : c.day < 100)
    (hmon : 1 ≤ c.mon ∧ c.mon ≤ 12) (hy : c.year < 10000) (hw : 1 ≤ c.wday ∧ c.wday ≤ 7) :
    parseImf (stem c ++ [71, 77, 84]) = some c := by
  have hwo := wdayOf_wday3 c.wday (Nat.lt_succ_of_le hw.2) hw.1
  have hmo := monOf_mon3 c.mon (Nat.lt_succ_of_le hmon.2) hmon.1
  obtain ⟨a, b, d, hw3⟩ := wday3_three c.wday
  obtain ⟨x, y, z, hm3⟩ := mon3_three c.mon
  rw [hw3] at hwo
  rw [hm3] at hmo
  simp only [stem, hw3, hm3, List.cons_append, List.nil_append, parseImf, and_self, if_true, int2_dg _ hs, int2_dg _ hm,
    int2_dg _ hh, int2_dg _ hd, int4_dg _ hy, hwo, hmo]

/-- `Date::parse` undoes `Display`: on the text of `c`, what is left to do is `parse_imf_fixdate` on the same text
    ending in `GMT`, and `is_valid` -/
theorem parseHeader_renderB (c : Civil) (hv : isValid c = true) : parseHeader (renderB c) = some c := by
  have hv' := hv
  simp only [isValid, Bool.and_eq_true, decide_eq_true_eq, beq_iff_eq, and_assoc] at hv'
  obtain ⟨hs, hm, hh, -, hd, m1, m12, -, hy, hc⟩ := hv'
  -- `is_valid` does not look at the weekday, but it checks `civil (toSecs c) == c`, and `civil` gives a weekday
  have hw := (civil_spec (toSecs c)).wday
  rw [hc] at hw
  have hI := parseImf_stem c (Nat.lt_trans hs (by decide)) (Nat.lt_trans hm (by decide)) (Nat.lt_trans hh (by decide))
    (Nat.lt_trans hd (by decide)) ⟨m1, m12⟩ (Nat.lt_succ_of_le hy)
    (hw ▸ ⟨Nat.succ_pos _, Nat.succ_le_of_lt (Nat.mod_lt _ (by decide))⟩)
  have hl : (renderB c).length - 5 = (stem c).length := by simp [renderB]
  unfold parseHeader
  simp only [hl]
  simp only [renderB, List.drop_left, List.take_left, if_true, hI, hv]

theorem isValid_civil (t : Nat) (h9999 : (civil t).year ≤ 9999) : isValid (civil t) = true := by
  obtain ⟨⟨hs, hm, hh⟩, -, mon, day, year, -⟩ := civil_spec t
  simp only [isValid, toSecs_civil, Bool.and_eq_true, decide_eq_true_eq, beq_self_eq_true, and_true, and_assoc]
  -- a remainder is below its divisor, and so is the quotient of a number below the divisor's multiple
  exact ⟨hs ▸ Nat.mod_lt _ (by decide), hm ▸ Nat.div_lt_of_lt_mul (Nat.mod_lt _ (by decide)),
    hh ▸ Nat.div_lt_of_lt_mul (Nat.mod_lt _ (by decide)), day.1, Nat.lt_succ_of_le day.2, mon.1, mon.2, year, h9999⟩

end LV.DateText
