import LettreVerif.Proofs.Rfc2047Pieces
/-!
# The header writer keeps what it writes well folded (C02)

`scan` says what a well-formed header value is; `Inv` is the invariant of the writer `W` (`Model/HeaderEnc.lean`), kept by
each of its operations; `encodeValue_wf` is the result.
-/
namespace LV.HeaderEnc
open LV

/-! ### a scanner for header-value well-formedness

no bare CR or LF, every CRLF is followed by SP, every other octet is HTAB or printable ASCII -/

inductive Sc | norm | cr | nl deriving DecidableEq, Repr

def printable (b : Byte) : Bool := b.toNat == 9 || (32 ≤ b.toNat && b.toNat ≤ 126)

def scStep : Sc → Byte → Option Sc
  | .norm, b => if b = 13 then some .cr else if printable b then some .norm else none
  | .cr, b => if b = 10 then some .nl else none
  | .nl, b => if b = 32 then some .norm else none

def scan : Sc → Bytes → Option Sc
  | s, [] => some s
  | s, b :: bs => match scStep s b with
    | none => none
    | some s' => scan s' bs

theorem scan_append (s : Sc) (xs ys : Bytes) :
    scan s (xs ++ ys) = (scan s xs).bind (fun s' => scan s' ys) := by
  induction xs generalizing s with
  | nil => rfl
  | cons x xs ih =>
    simp only [List.cons_append, scan]
    cases scStep s x with
    | none => rfl
    | some s' => exact ih s'

/-- printable octets only (in particular no CR, no LF) -/
def Plain (s : Bytes) : Prop := ∀ b ∈ s, printable b = true

instance (s : Bytes) : Decidable (Plain s) := inferInstanceAs (Decidable (∀ b ∈ s, printable b = true))

theorem plain_append {a b : Bytes} : Plain (a ++ b) ↔ Plain a ∧ Plain b := List.forall_mem_append

theorem Plain.append {s t : Bytes} (hs : Plain s) (ht : Plain t) : Plain (s ++ t) := plain_append.mpr ⟨hs, ht⟩

theorem plain_single {c : Byte} (h : printable c = true) : Plain [c] := List.forall_mem_singleton.mpr h

theorem printable_not_cr (b : Byte) (h : printable b = true) : b ≠ 13 := by
  intro e; subst e; revert h; decide

theorem scan_norm_step {x : Byte} (hx : x ≠ 13) (hp : printable x = true) (a : Bytes) :
    scan .norm (x :: a) = scan .norm a := by
  rw [scan, scStep, if_neg hx, if_pos hp]

theorem scan_norm_plain (s : Bytes) (h : Plain s) : scan .norm s = some .norm := by
  induction s with
  | nil => rfl
  | cons b bs ih =>
    obtain ⟨hb, hbs⟩ := List.forall_mem_cons.mp h
    rw [scan_norm_step (printable_not_cr b hb) hb]
    exact ih hbs

theorem plain_spaces (n : Nat) : Plain (List.replicate n 32) :=
  List.forall_mem_replicate.mpr (.inr (by decide))

theorem scan_nl_spaces (n : Nat) (hn : 1 ≤ n) : scan .nl (List.replicate n 32) = some .norm := by
  obtain ⟨k, rfl⟩ := Nat.exists_eq_succ_of_ne_zero (Nat.ne_of_gt hn)
  exact scan_norm_plain _ (plain_spaces k)

theorem scan_cr_inv {a : Bytes} (h : scan .cr a = some .norm) : ∃ a', a = 10 :: a' ∧ scan .nl a' = some .norm := by
  cases a with
  | nil => cases h
  | cons y a' =>
    by_cases hy : y = 10
    · subst hy; exact ⟨a', rfl, h⟩
    · rw [scan, scStep, if_neg hy] at h; cases h

theorem scan_nl_inv {a : Bytes} (h : scan .nl a = some .norm) : ∃ a', a = 32 :: a' ∧ scan .norm a' = some .norm := by
  cases a with
  | nil => cases h
  | cons y a' =>
    by_cases hy : y = 32
    · subst hy; exact ⟨a', rfl, h⟩
    · rw [scan, scStep, if_neg hy] at h; cases h

theorem scan_norm_inv {x : Byte} {a : Bytes} (h : scan .norm (x :: a) = some .norm) :
    (x ≠ 13 ∧ printable x = true ∧ scan .norm a = some .norm) ∨
    (x = 13 ∧ ∃ a', a = 10 :: 32 :: a' ∧ scan .norm a' = some .norm) := by
  by_cases hx : x = 13
  · subst hx
    obtain ⟨a1, rfl, h1⟩ := scan_cr_inv (a := a) h
    obtain ⟨a2, rfl, h2⟩ := scan_nl_inv h1
    exact .inr ⟨rfl, a2, rfl, h2⟩
  · by_cases hp : printable x = true
    · exact .inl ⟨hx, hp, scan_norm_step hx hp a ▸ h⟩
    · rw [scan, scStep, if_neg hx, if_neg hp] at h; cases h

/-- induction over well-folded text: printable octets other than CR, and folds `CR LF SP` -/
theorem scan_induct {P : ∀ a, scan .norm a = some .norm → Prop} (nil : P [] rfl)
    (plain : ∀ x a (hx : x ≠ 13) (hp : printable x = true) (ha : scan .norm a = some .norm), P a ha →
      P (x :: a) ((scan_norm_step hx hp a).trans ha))
    (fold : ∀ a (ha : scan .norm a = some .norm), P a ha → P (13 :: 10 :: 32 :: a) ha) :
    ∀ a h, P a h := by
  suffices ∀ n a, a.length < n → ∀ h, P a h from fun a => this _ a (Nat.lt_succ_self _)
  intro n
  induction n with
  | zero => exact fun a hl => absurd hl (Nat.not_lt_zero _)
  | succ n ih =>
    rintro (_ | ⟨x, a⟩) hl h
    · exact nil
    · rcases scan_norm_inv h with ⟨hx, hp, ha⟩ | ⟨rfl, a', rfl, ha⟩
      · exact plain x a hx hp ha (ih a (Nat.lt_of_succ_lt_succ hl) ha)
      · exact fold a' ha (ih a' (Nat.lt_of_succ_lt (Nat.lt_of_succ_lt (Nat.lt_of_succ_lt_succ hl))) ha)

/-! ### the writer's equations -/

theorem bytes_cons (c : Bytes) (cs : List Bytes) (l s : Nat) (n : Bool) :
    (⟨c :: cs, l, s, n⟩ : W).bytes = (⟨cs, l, s, n⟩ : W).bytes ++ c := by
  simp [W.bytes]

theorem bytes_newLine (w : W) : w.newLine.bytes = w.bytes ++ [13, 10] := bytes_cons _ _ _ _ _

theorem bytes_flush (w : W) : w.flushSpaces.bytes = w.bytes ++ List.replicate w.spaces 32 := bytes_cons _ _ _ _ _

theorem bytes_space (w : W) : w.space.bytes = w.bytes := rfl

/-- what has been written, pending spaces included -/
def W.out (w : W) : Bytes := w.bytes ++ List.replicate w.spaces 32

theorem out_flush (w : W) : w.flushSpaces.bytes = w.out := bytes_flush w

theorem out_addSpaces (w : W) (n : Nat) : ({ w with spaces := w.spaces + n } : W).out = w.out ++ List.replicate n 32 := by
  simp only [W.out, W.bytes, List.append_assoc, List.replicate_append_replicate]

theorem trimEnd_split (s : Bytes) : trimEnd s ++ List.replicate (s.length - (trimEnd s).length) 32 = s := by
  have e := List.takeWhile_append_dropWhile (p := (· == 32)) (l := s.reverse)
  have hrep : s.reverse.takeWhile (· == 32) = List.replicate (s.reverse.takeWhile (· == 32)).length 32 :=
    List.eq_replicate_iff.mpr ⟨rfl, fun b hb => beq_iff_eq.mp (List.all_eq_true.mp List.all_takeWhile b hb)⟩
  have hl := congrArg List.length e
  rw [List.length_append, List.length_reverse] at hl
  conv => rhs; rw [← List.reverse_reverse s, ← e, List.reverse_append, hrep, List.reverse_replicate]
  rw [trimEnd, List.length_reverse, ← hl, Nat.add_sub_cancel]

theorem trimEnd_sub (s : Bytes) : ∀ b ∈ trimEnd s, b ∈ s := by
  intro b hb
  rw [← trimEnd_split s]
  exact List.mem_append_left _ hb

theorem trimEnd_id (s : Bytes) (h : ∀ b ∈ s, b ≠ 32) : trimEnd s = s := by
  rw [trimEnd, List.dropWhile_beq_eq_self_of_head?_ne fun e => h 32 (List.mem_reverse.mp (List.mem_of_head? e)) rfl,
    List.reverse_reverse]

theorem bytes_writeStr (w : W) (s : Bytes) : (w.writeStr s).bytes = w.flushSpaces.bytes ++ trimEnd s := by
  unfold W.writeStr
  simp only
  split
  · rename_i h
    rw [List.isEmpty_iff.mp h, List.append_nil]
    rfl
  · exact bytes_cons _ _ _ _ _

theorem spaces_writeStr (w : W) (s : Bytes) : (w.writeStr s).spaces = s.length - (trimEnd s).length := by
  unfold W.writeStr
  simp only
  split <;> exact Nat.zero_add _

theorem out_writeStr (w : W) (s : Bytes) : (w.writeStr s).out = w.out ++ s := by
  rw [W.out, bytes_writeStr, spaces_writeStr, out_flush, List.append_assoc, trimEnd_split]

theorem lineLen_writeStr (w : W) (s : Bytes) : (w.writeStr s).lineLen = w.lineLen + w.spaces + (trimEnd s).length := by
  unfold W.writeStr
  simp only
  split
  · rename_i h; rw [List.isEmpty_iff.mp h]; rfl
  · rfl

theorem writeStr_nospace (w : W) (s : Bytes) (h : ∀ b ∈ s, b ≠ 32) :
    (w.writeStr s).spaces = 0 ∧ (w.writeStr s).lineLen = w.lineLen + w.spaces + s.length := by
  rw [spaces_writeStr, lineLen_writeStr, trimEnd_id s h]
  exact ⟨Nat.sub_self _, rfl⟩

theorem canNL_writeStr (w : W) {s : Bytes} (h : trimEnd s ≠ []) : (w.writeStr s).canNL = true := by
  unfold W.writeStr
  simp only
  rw [if_neg (by simpa using h)]

/-! ### the writer keeps what it has written well folded -/

/-- writer invariant: what has been written scans, and if it ends in CRLF a space is pending -/
def Inv (w : W) : Prop :=
  scan .norm w.bytes = some .norm ∨
  (scan .norm w.bytes = some .nl ∧ 1 ≤ w.spaces ∧ w.canNL = false ∧ w.lineLen = 0)

theorem Inv.start (l : Nat) : Inv ⟨[], l, 0, false⟩ := .inl rfl

theorem Inv.of_norm {w : W} (h : scan .norm w.bytes = some .norm) : Inv w := .inl h

/-- on a line that is not empty the writer is not right after a fold -/
theorem Inv.norm {w : W} (h : Inv w) (hL : w.lineLen ≠ 0) : scan .norm w.bytes = some .norm :=
  h.resolve_right fun h => hL h.2.2.2

theorem inv_space {w : W} (h : Inv w) : Inv w.space :=
  h.imp id fun h => ⟨h.1, Nat.le_succ_of_le h.2.1, h.2.2⟩

theorem flush_norm {w : W} (h : Inv w) : scan .norm w.flushSpaces.bytes = some .norm := by
  rw [bytes_flush, scan_append]
  rcases h with h | ⟨h, hs, _⟩
  · rw [h]; exact scan_norm_plain _ (plain_spaces _)
  · rw [h]; exact scan_nl_spaces _ hs

theorem view_scan {w : W} (h : Inv w) : scan .norm w.out = some .norm := out_flush w ▸ flush_norm h

/-- more than `Inv`: `write_str` flushes the pending spaces, so the writer is never right after a fold -/
theorem inv_writeStr {w : W} (h : Inv w) (s : Bytes) (hs : Plain s) :
    scan .norm (w.writeStr s).bytes = some .norm := by
  rw [bytes_writeStr, scan_append, flush_norm h]
  exact scan_norm_plain _ fun b hb => hs b (trimEnd_sub s b hb)

theorem Inv.writeStr {w : W} (h : Inv w) (s : Bytes) (hs : Plain s) : Inv (w.writeStr s) :=
  .of_norm (inv_writeStr h s hs)

theorem scan_newLine {w : W} (h : scan .norm w.bytes = some .norm) : scan .norm w.newLine.bytes = some .nl := by
  rw [bytes_newLine, scan_append, h]; rfl

theorem inv_newLine {w : W} (h : scan .norm w.bytes = some .norm) (hs : 1 ≤ w.spaces) : Inv w.newLine :=
  .inr ⟨scan_newLine h, hs, rfl, rfl⟩

theorem emitTok_cases {w : W} (h : Inv w) (t : Bytes) :
    w.emitTok t = w.writeStr t ∨
    (scan .norm w.bytes = some .norm ∧ 1 ≤ w.spaces ∧ w.emitTok t = w.newLine.writeStr t) := by
  unfold W.emitTok
  simp only
  split
  · rename_i hc
    simp only [Bool.and_eq_true, decide_eq_true_eq] at hc
    rcases h with h | ⟨_, _, h3, _⟩
    · exact .inr ⟨h, hc.1.2, rfl⟩
    · rw [h3] at hc; exact absurd hc.1.1 (by decide)
  · exact .inl rfl

theorem inv_emitTok {w : W} (h : Inv w) (t : Bytes) (ht : Plain t) : Inv (w.emitTok t) := by
  rcases emitTok_cases h t with e | ⟨hn, hs, e⟩
  · rw [e]; exact h.writeStr t ht
  · rw [e]; exact (inv_newLine hn hs).writeStr t ht

/-- `P w x`: the writer is `w` once the text `x` has gone through; every space goes to `space`, every maximal space-free
    token to `emitTok` -/
theorem foldGo_induct {P : W → Bytes → Prop} (space : ∀ {w x}, P w x → P w.space (x ++ [32]))
    (emit : ∀ {w x} (t : Bytes), t ≠ [] → P w x → P (w.emitTok t) (x ++ t)) :
    ∀ (s : Bytes) {w : W} {x : Bytes} (tok : Bytes), P w x → P (foldGo w tok s) (x ++ tok.reverse ++ s) := by
  have flush : ∀ {w x} (tok : Bytes), P w x →
      P (if tok.isEmpty then w else w.emitTok tok.reverse) (x ++ tok.reverse) := by
    intro w x tok h
    cases tok with
    | nil => rw [List.reverse_nil, List.append_nil]; exact h
    | cons c tok =>
      rw [List.isEmpty_cons, if_neg Bool.false_ne_true]
      exact emit _ (List.reverse_ne_nil_iff.mpr (List.cons_ne_nil c tok)) h
  intro s
  induction s with
  | nil => intro w x tok h; rw [List.append_nil]; exact flush tok h
  | cons c cs ih =>
    intro w x tok h
    rw [foldGo]
    by_cases hc : (c == 32) = true
    · rw [if_pos hc]
      obtain rfl : c = 32 := beq_iff_eq.mp hc
      have := ih [] (space (flush tok h))
      rwa [List.reverse_nil, List.append_nil, List.append_assoc (x ++ _), List.singleton_append] at this
    · have := ih (c :: tok) h
      rw [if_neg hc]
      rwa [List.reverse_cons, List.append_assoc, List.append_assoc, List.singleton_append, ← List.append_assoc] at this

theorem foldWrite_induct {P : W → Bytes → Prop} (space : ∀ {w x}, P w x → P w.space (x ++ [32]))
    (emit : ∀ {w x} (t : Bytes), t ≠ [] → P w x → P (w.emitTok t) (x ++ t)) (s : Bytes) {w : W} (h : P w []) :
    P (foldWrite w s) s := by
  have := foldGo_induct space emit s [] h
  rwa [List.reverse_nil, List.append_nil, List.nil_append] at this

theorem inv_foldGo {w : W} (h : Inv w) (tok s : Bytes) (ht : Plain tok) (hs : Plain s) :
    Inv (foldGo w tok s) :=
  foldGo_induct (P := fun w' x => Plain x → Inv w') (fun ih hx => inv_space (ih (plain_append.mp hx).1))
    (fun t _ ih hx => inv_emitTok (ih (plain_append.mp hx).1) t (plain_append.mp hx).2) s tok (x := []) (fun _ => h)
    (plain_append.mpr ⟨fun b hb => ht b (List.mem_reverse.mp (by simpa using hb)), hs⟩)

theorem inv_foldWrite {w : W} (h : Inv w) (s : Bytes) (hs : Plain s) : Inv (foldWrite w s) :=
  inv_foldGo h [] s (List.forall_mem_nil _) hs

/-! ### the RFC 2047 encoder keeps the invariant -/

/-- the fold inside `rfc2047::encode`: a new line, and a space if none is pending -/
def W.refold (w : W) : W := if w.newLine.spaces == 0 then w.newLine.space else w.newLine

theorem bytes_refold (w : W) : w.refold.bytes = w.bytes ++ [13, 10] := by
  unfold W.refold
  split <;> exact bytes_newLine w

theorem rfc2047_succ (fuel : Nat) (w : W) {s : Bytes} (wrote : Bool) (hs : s ≠ []) :
    rfc2047 (fuel + 1) w s wrote =
      if (fitting w.lineLen s).isEmpty && (wrote || decide (w.spaces ≥ 1)) then rfc2047 fuel w.refold s wrote
      else rfc2047 fuel (((w.writeStr encPrefix).writeStr (Base64.enc (written w.lineLen s))).writeStr encSuffix)
        (s.drop (written w.lineLen s).length) true := by
  rw [rfc2047, if_neg (by simpa using hs)]
  rfl

theorem plain_prefix : Plain encPrefix := by decide
theorem plain_suffix : Plain encSuffix := by decide

theorem plain_b64 (x : Bytes) : Plain (Base64.enc x) := by
  intro b hb
  have := BodyEnc.enc_chars x b hb
  -- the base64 alphabet lies within 43 ..= 122
  simp only [printable, Bool.or_eq_true, beq_iff_eq, Bool.and_eq_true, decide_eq_true_eq]
  unfold BodyEnc.b64Char at this
  exact .inr (by omega)

theorem inv_refold {w : W} (h : Inv w) (hL : w.lineLen ≠ 0) : Inv w.refold := by
  have hn := scan_newLine (h.norm hL)
  unfold W.refold
  split
  · exact .inr ⟨hn, Nat.le_add_left _ _, rfl, rfl⟩
  · rename_i hsp
    exact .inr ⟨hn, Nat.pos_of_ne_zero (by simpa using hsp), rfl, rfl⟩

theorem inv_rfc2047 (fuel : Nat) {w : W} (h : Inv w) (s : Bytes) (hu : ContRunsLe3 s) (wrote : Bool) :
    Inv (rfc2047 fuel w s wrote) := by
  induction fuel generalizing w s wrote with
  | zero => exact h
  | succ f ih =>
    by_cases hs : s = []
    · subst hs; exact h
    rw [rfc2047_succ f w wrote hs]
    split
    · rename_i hc
      have := full_of_fitting_nil hu hs (Bool.and_eq_true_iff.mp hc).1
      exact ih (inv_refold h (by omega)) s hu wrote
    · exact ih (((h.writeStr _ plain_prefix).writeStr _ (plain_b64 _)).writeStr _ plain_suffix) _
        (contRuns_drop s _ hu) true

theorem inv_addSpaces {w : W} (h : Inv w) (n : Nat) : Inv { w with spaces := w.spaces + n } :=
  h.imp id fun h => ⟨h.1, Nat.le_add_right_of_le h.2.1, h.2.2⟩

theorem inv_flushBuf {w : W} (h : Inv w) (buf : Bytes) (hu : ContRunsLe3 buf) : Inv (flushBuf w buf) := by
  unfold flushBuf
  split
  · exact h
  · exact inv_addSpaces (inv_rfc2047 _ h _ (contRuns_prefix _ _ (by rw [trimEnd_split]; exact hu)) false) _

theorem allowedChar_true (c : Byte) : allowedChar true c = printable c := rfl

theorem allowed_plain (word : Bytes) (h : word.all (allowedChar true) = true) : Plain word :=
  fun b hb => (allowedChar_true b).symm.trans (List.all_eq_true.mp h b hb)

theorem plain_allowed {word : Bytes} (h : Plain word) : word.all (allowedChar true) = true :=
  List.all_eq_true.mpr fun b hb => (allowedChar_true b).trans (h b hb)

theorem inv_hvWords (g : Bool) {w : W} (h : Inv w) (buf : Bytes) (ws : List Bytes)
    (hu : ContRunsLe3 (buf ++ ws.flatten)) : Inv (hvWords ⟨true, g⟩ w buf ws) := by
  induction ws generalizing w buf with
  | nil => exact inv_flushBuf h buf (by simpa using hu)
  | cons word ws ih =>
    rw [List.flatten_cons, ← List.append_assoc] at hu
    simp only [hvWords]
    split
    · rename_i hc
      simp only [Bool.and_eq_true] at hc
      exact ih (inv_foldWrite (inv_flushBuf h buf (contRuns_prefix _ _ (contRuns_prefix _ _ hu))) word
        (allowed_plain word hc.1.1)) [] (contRuns_suffix _ _ hu)
    · exact ih h _ hu

theorem splitInclusive_flatten (acc s : Bytes) : (splitInclusive acc s).flatten = acc.reverse ++ s := by
  induction s generalizing acc with
  | nil =>
    simp only [splitInclusive]
    split
    · rename_i h; rw [List.isEmpty_iff.mp h]; rfl
    · simp
  | cons c cs ih =>
    simp only [splitInclusive]
    split
    · simp [ih]
    · simp [ih]

/-- `C02.value_wf` -/
theorem encodeValue_wf (g : Bool) (nameLen : Nat) (value : Bytes) (hu : ContRunsLe3 value) :
    scan .norm (encodeValue ⟨true, g⟩ nameLen value) = some .norm := by
  unfold encodeValue
  apply flush_norm
  apply inv_hvWords
  · exact Inv.start _
  · simpa [splitInclusive_flatten] using hu

end LV.HeaderEnc
