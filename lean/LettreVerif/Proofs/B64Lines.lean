import LettreVerif.Proofs.BodyEnc
/-!
# base64 bodies: lines of at most 76 characters of the alphabet, CRLF between them

The lines put together are the encoding of the whole content (`b64Lines_spec`); from that the round trip through a
reader that drops the line breaks, and the line rules.  The bound on the size is an induction of its own.
-/
namespace LV.BodyEnc
open LV LV.BodyDec

theorem joinCrlf_cons_cons (l m : Bytes) (ms : List Bytes) :
    joinCrlf (l :: m :: ms) = l ++ 13 :: 10 :: joinCrlf (m :: ms) := by
  simp [joinCrlf, CRLF]

theorem dropCrlf_join (ls : List Bytes) (h : ∀ l ∈ ls, ∀ c ∈ l, c ≠ 13) : dropCrlf (joinCrlf ls) = ls.flatten := by
  induction ls with
  | nil => rfl
  | cons l ls ih =>
    cases ls with
    | nil => simpa [joinCrlf, dropCrlf] using dropCrlf_noCr l [] (h l List.mem_cons_self)
    | cons m ms =>
      rw [joinCrlf_cons_cons, dropCrlf_noCr l _ (h l List.mem_cons_self), dropCrlf,
        ih (fun l' hl' => h l' (List.mem_cons_of_mem _ hl'))]
      rfl

theorem b64Lines_spec (fuel : Nat) (b : Bytes) (h : b.length < fuel) :
    (b64Lines fuel b).flatten = Base64.enc b ∧ ∀ l ∈ b64Lines fuel b, l.length ≤ 76 ∧ ∀ c ∈ l, b64Char c := by
  induction fuel generalizing b with
  | zero => cases h
  | succ f ih =>
    rw [b64Lines]
    split
    · rename_i hlen
      -- at most 57 octets make at most 4 * (59 / 3) = 76 characters
      have h76 : (Base64.enc b).length ≤ 76 :=
        enc_len b ▸ Nat.mul_le_mul_left 4 (Nat.div_le_div_right (Nat.add_le_add_right hlen 2))
      exact ⟨by simp, by simp only [List.mem_singleton, forall_eq]; exact ⟨h76, enc_chars b⟩⟩
    · rename_i hlen
      have hlt : 57 < b.length := Nat.lt_of_not_le hlen
      -- what is left is shorter
      have hd : (b.drop 57).length < f :=
        List.length_drop ▸ Nat.lt_of_lt_of_le (Nat.sub_lt (Nat.zero_lt_of_lt hlt) (by decide)) (Nat.le_of_lt_succ h)
      obtain ⟨h1, h2⟩ := ih (b.drop 57) hd
      have ht : (b.take 57).length = 57 := List.length_take_of_le (Nat.le_of_lt hlt)
      refine ⟨?_, ?_⟩
      · rw [List.flatten_cons, h1, ← enc_append _ _ (by rw [ht]), List.take_append_drop]
      · simp only [List.forall_mem_cons]
        exact ⟨⟨by rw [enc_len, ht]; decide, enc_chars _⟩, h2⟩

theorem b64Body_roundtrip (b : Bytes) : b64Decode (b64Body b) = some b := by
  rw [b64Body, b64Decode]
  split
  · rename_i h
    rw [List.isEmpty_iff.mp h]; rfl
  · obtain ⟨h1, h2⟩ := b64Lines_spec (b.length + 1) b (Nat.lt_succ_self _)
    rw [dropCrlf_join _ (fun l hl c hc => (b64Char_props c ((h2 l hl).2 c hc)).1), h1]
    exact Base64.dec_enc b

theorem mem_joinCrlf (ls : List Bytes) (c : Byte) (h : c ∈ joinCrlf ls) : (∃ l ∈ ls, c ∈ l) ∨ c = 13 ∨ c = 10 := by
  induction ls with
  | nil => cases h
  | cons l ls ih =>
    cases ls with
    | nil => exact .inl ⟨l, List.mem_cons_self, h⟩
    | cons m ms =>
      rw [joinCrlf_cons_cons, List.mem_append, List.mem_cons, List.mem_cons] at h
      rcases h with h | h | h | h
      · exact .inl ⟨l, List.mem_cons_self, h⟩
      · exact .inr (.inl h)
      · exact .inr (.inr h)
      · exact (ih h).imp_left fun ⟨l', hl', hc⟩ => ⟨l', List.mem_cons_of_mem _ hl', hc⟩

theorem lines_join (lim : Nat) (ls : List Bytes) (h : ∀ l ∈ ls, l.length ≤ lim ∧ ∀ c ∈ l, c ≠ 13 ∧ c ≠ 10) :
    linesOkGo lim 0 (joinCrlf ls) = true := by
  induction ls with
  | nil => rfl
  | cons l ls ih =>
    have hl := h l List.mem_cons_self
    cases ls with
    | nil =>
      have := linesOkGo_run lim l 0 [] hl.2
      rw [List.append_nil] at this
      rw [joinCrlf, this, linesOkGo]
      simpa using hl.1
    | cons m ms =>
      rw [joinCrlf_cons_cons, linesOkGo_run lim l 0 _ hl.2, linesOkGo, ih (fun x hx => h x (List.mem_cons_of_mem _ hx))]
      simpa using hl.1

theorem b64_encodedOk (b : Bytes) : encodedOk (b64Body b) = true := by
  rw [b64Body]
  split
  · rfl
  · have h := (b64Lines_spec (b.length + 1) b (Nat.lt_succ_self _)).2
    have hp := fun l hl c hc => b64Char_props c ((h l hl).2 c hc)
    -- every octet is of the alphabet, a CR or an LF: ASCII and no blank
    have hc : ∀ c ∈ joinCrlf (b64Lines (b.length + 1) b), c ≠ 32 ∧ c ≠ 9 ∧ c < 128 := by
      intro c hc
      rcases mem_joinCrlf _ c hc with ⟨l, hl, hcl⟩ | rfl | rfl
      · exact (hp l hl c hcl).2.2
      · decide
      · decide
    rw [encodedOk, linesOk, lines_join _ _ (fun l hl => ⟨(h l hl).1, fun c hc => ⟨(hp l hl c hc).1, (hp l hl c hc).2.1⟩⟩),
      ntw_of_no_blank _ (fun c h => ⟨(hc c h).1, (hc c h).2.1⟩), Bool.and_true, Bool.and_true, List.all_eq_true]
    intro c h; simpa using (hc c h).2.2

theorem joinCrlf_cons_le (l : Bytes) (ls : List Bytes) : (joinCrlf (l :: ls)).length ≤ l.length + 2 + (joinCrlf ls).length := by
  cases ls with
  | nil => exact Nat.le_add_right ..
  | cons m ms =>
    rw [joinCrlf_cons_cons, List.length_append, List.length_cons, List.length_cons, Nat.add_assoc _ 2, Nat.add_comm 2]
    exact Nat.le_refl _

theorem b64Lines_size (fuel : Nat) (b : Bytes) : (joinCrlf (b64Lines fuel b)).length ≤ 2 * b.length + 4 := by
  induction fuel generalizing b with
  | zero => simp [b64Lines, joinCrlf]
  | succ fuel ih =>
    simp only [b64Lines]
    split
    · simp only [joinCrlf, enc_len]; omega
    · rename_i hlen
      have h1 := joinCrlf_cons_le (Base64.enc (b.take 57)) (b64Lines fuel (b.drop 57))
      have h2 := ih (b.drop 57)
      have h3 : (Base64.enc (b.take 57)).length = 76 := by
        rw [enc_len, List.length_take_of_le (Nat.le_of_not_le hlen)]
      simp only [List.length_drop] at h2
      omega

end LV.BodyEnc
