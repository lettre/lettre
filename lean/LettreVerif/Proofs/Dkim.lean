import LettreVerif.Model.Dkim
import LettreVerif.Proofs.Headers
import LettreVerif.Spec.DkimVerifier
/-!
# C13: the octets the signer hashes are those an RFC 6376 reader computes

The signer's two loops (`relaxedGo` for the body, value mode of `relH` for a header field) and the reader's
`relaxedLine` obey the same recursion over one line (`line_induction`). A folded header value is handled by induction
over its three shapes (`wfValue_induction`); on it unfolding is the deletion of CR and LF. The reader's canonical form
of a field has one normal form (`relaxedField_fld`). Which fields are hashed: one simulation between `insert_raw` and
§5.4.2 selection (`select_sim`).
-/
namespace LV.Dkim
open LV LV.Headers DkimVerifier

theorem isWsp_eq (c : Byte) : Dkim.isWsp c = DkimVerifier.isWsp c := rfl

/-! ## white space at the end of a line, runs of white space -/

theorem strip_cons (c : Byte) (l : Bytes) :
    stripTrailingWsp (c :: l) =
      if DkimVerifier.isWsp c ∧ stripTrailingWsp l = [] then [] else c :: stripTrailingWsp l := by
  simp only [stripTrailingWsp, List.reverse_cons, List.dropWhile_append, List.reverse_eq_nil_iff,
    List.isEmpty_iff]
  by_cases h : l.reverse.dropWhile DkimVerifier.isWsp = []
  · by_cases hc : DkimVerifier.isWsp c = true <;> simp [h, hc]
  · simp [h]

theorem strip_nonwsp {c : Byte} (l : Bytes) (hc : DkimVerifier.isWsp c = false) :
    stripTrailingWsp (c :: l) = c :: stripTrailingWsp l := by
  simp [strip_cons, hc]

theorem strip_shape (z : Bytes) : stripTrailingWsp z = [] ∨
    ∃ r x, stripTrailingWsp z = r ++ [x] ∧ DkimVerifier.isWsp x = false := by
  rw [stripTrailingWsp]
  cases h : z.reverse.dropWhile DkimVerifier.isWsp with
  | nil => exact Or.inl rfl
  | cons x r =>
    have := List.head?_dropWhile_not DkimVerifier.isWsp z.reverse
    rw [h] at this
    exact Or.inr ⟨r.reverse, x, List.reverse_cons, this⟩

theorem rdrop_snoc {p : Byte → Bool} (r : Bytes) {x : Byte} (hx : ¬ p x = true) (s : Bytes) (hs : ∀ c ∈ s, p c = true) :
    ((r ++ x :: s).reverse.dropWhile p).reverse = r ++ [x] := by
  rw [List.reverse_append, List.reverse_cons, List.append_assoc,
    List.dropWhile_append_of_pos fun c hc => hs c (List.mem_reverse.mp hc), List.singleton_append,
    List.dropWhile_cons_of_neg hx, List.reverse_cons, List.reverse_reverse]

theorem strip_idem (z : Bytes) : stripTrailingWsp (stripTrailingWsp z) = stripTrailingWsp z := by
  rcases strip_shape z with h | ⟨r, x, h, hx⟩
  · rw [h]; rfl
  · rw [h]; exact rdrop_snoc r (by simpa using hx) [] fun _ hc => nomatch hc

theorem compress_nonwsp {a : Byte} (x : Bytes) (h : DkimVerifier.isWsp a = false) :
    compressWsp (a :: x) = a :: compressWsp x := by
  cases x <;> simp [compressWsp, h]

theorem compress_wsp {a : Byte} (ha : DkimVerifier.isWsp a = true) : compressWsp [a] = [32] := by
  rw [compressWsp, if_pos ha]

theorem compress_wsp_cons {a : Byte} (b : Byte) (x : Bytes) (ha : DkimVerifier.isWsp a = true) :
    compressWsp (a :: b :: x) =
      if DkimVerifier.isWsp b then compressWsp (b :: x) else 32 :: compressWsp (b :: x) := by
  simp [compressWsp, ha]

theorem relaxedLine_nonwsp {c : Byte} (l : Bytes) (hc : DkimVerifier.isWsp c = false) :
    relaxedLine (c :: l) = c :: relaxedLine l := by
  rw [relaxedLine, strip_nonwsp l hc, compress_nonwsp _ hc, relaxedLine]

theorem relaxedLine_wsp {c : Byte} (hc : DkimVerifier.isWsp c = true) : relaxedLine [c] = [] := by
  simp [relaxedLine, hc, stripTrailingWsp, compressWsp]

theorem relaxedLine_wsp_cons {c : Byte} (d : Byte) (l : Bytes) (hc : DkimVerifier.isWsp c = true) :
    relaxedLine (c :: d :: l) =
      if DkimVerifier.isWsp d then relaxedLine (d :: l) else 32 :: relaxedLine (d :: l) := by
  simp only [relaxedLine, strip_cons c, hc, true_and]
  rw [strip_cons d]
  by_cases he : DkimVerifier.isWsp d = true ∧ stripTrailingWsp l = []
  · simp [he, compressWsp]
  · simp only [he, if_false, List.cons_ne_nil]
    exact compress_wsp_cons d _ hc

theorem line_induction {P : Bytes → Prop} (nil : P [])
    (nonwsp : ∀ c l, DkimVerifier.isWsp c = false → P l → P (c :: l))
    (wsp : ∀ c, DkimVerifier.isWsp c = true → P [c])
    (wsp_cons : ∀ c d l, DkimVerifier.isWsp c = true → P (d :: l) → P (c :: d :: l)) : ∀ l, P l
  | [] => nil
  | c :: l =>
    match hc : DkimVerifier.isWsp c, l with
    | false, l => nonwsp c l hc (line_induction nil nonwsp wsp wsp_cons l)
    | true, [] => wsp c hc
    | true, d :: l => wsp_cons c d l hc (line_induction nil nonwsp wsp wsp_cons (d :: l))

theorem dropWhile_compress (x : Bytes) :
    (compressWsp x).dropWhile DkimVerifier.isWsp = compressWsp (x.dropWhile DkimVerifier.isWsp) := by
  induction x using line_induction with
  | nil => rfl
  | nonwsp a x ha _ =>
    rw [List.dropWhile_cons_of_neg (Bool.eq_false_iff.mp ha), compress_nonwsp x ha, List.dropWhile_cons_of_neg (Bool.eq_false_iff.mp ha)]
  | wsp a ha => rw [compress_wsp ha, List.dropWhile_cons_of_pos ha]; rfl
  | wsp_cons a b r ha ih =>
    rw [List.dropWhile_cons_of_pos ha, ← ih, compress_wsp_cons b r ha]
    split
    · rfl
    · exact List.dropWhile_cons_of_pos (by decide)

theorem strip_compress_comm (u : Bytes) : stripTrailingWsp (compressWsp u) = relaxedLine u := by
  induction u using line_induction with
  | nil => rfl
  | nonwsp a u ha ih => rw [compress_nonwsp u ha, strip_nonwsp _ ha, ih, relaxedLine_nonwsp u ha]
  | wsp a ha => rw [relaxedLine_wsp ha, compress_wsp ha]; rfl
  | wsp_cons a b r ha ih =>
    rw [compress_wsp_cons b r ha, relaxedLine_wsp_cons b r ha]
    cases hb : DkimVerifier.isWsp b with
    | true => exact ih
    | false =>
      -- what follows starts with the non-blank `b`, so the SP is not at the end
      rw [if_neg Bool.false_ne_true, if_neg Bool.false_ne_true, strip_cons, ih, relaxedLine_nonwsp r hb, if_neg (by simp)]

theorem mem_relaxedLine (u : Bytes) (c : Byte) (h : c ∈ relaxedLine u) : c = 32 ∨ c ∈ u := by
  induction u using line_induction with
  | nil => cases h
  | nonwsp a u ha ih =>
    rw [relaxedLine_nonwsp u ha] at h
    exact (List.mem_cons.mp h).elim (fun e => .inr (e ▸ List.mem_cons_self)) fun h => (ih h).imp_right (List.mem_cons_of_mem _)
  | wsp a ha => rw [relaxedLine_wsp ha] at h; cases h
  | wsp_cons a b r ha ih =>
    rw [relaxedLine_wsp_cons b r ha] at h
    split at h
    · exact (ih h).imp_right (List.mem_cons_of_mem _)
    · exact (List.mem_cons.mp h).elim .inl fun h => (ih h).imp_right (List.mem_cons_of_mem _)

theorem strip_relaxedLine (u : Bytes) : stripTrailingWsp (relaxedLine u) = relaxedLine u := by
  rw [← strip_compress_comm, strip_idem]

/-! ## the body hash input -/

theorem stripRev_crlf (r : Bytes) :
    stripRev (10 :: 13 :: r) = 10 :: 13 :: dropCrlfRev r := by
  fun_induction dropCrlfRev r with
  | case1 r ih => rw [stripRev]; exact ih
  | case2 r h =>
    rw [stripRev]
    intro r' hr
    exact h r' (List.cons.inj (List.cons.inj hr).2).2

theorem stripEmptyLines_crlf (x : Bytes) : stripEmptyLines (x ++ CRLF) = stripTrailingCrlfs x ++ CRLF := by
  simp [stripEmptyLines, stripTrailingCrlfs, CRLF, stripRev_crlf]

/-- the signer always hashes `body ++ CRLF` -/
theorem simple_body_agrees (o : Opts) (body : Bytes) :
    bodyCanon o .simple (body ++ CRLF) = simpleBody body :=
  stripEmptyLines_crlf body

def hasCrlf : Bytes → Bool
  | 13 :: 10 :: _ => true
  | _ :: r => hasCrlf r
  | [] => false

theorem hasCrlf_cons {b : Byte} {l : Bytes} :
    hasCrlf (b :: l) = false ↔ hasCrlf l = false ∧ ∀ t, b :: l ≠ 13 :: 10 :: t := by
  by_cases e : ∃ t, b :: l = 13 :: 10 :: t
  · obtain ⟨t, e⟩ := e
    rw [e]
    exact ⟨nofun, fun h => absurd rfl (h.2 t)⟩
  · -- the arm `_ :: r`; its side condition: not `13 :: 10 :: _`
    rw [hasCrlf.eq_2 b l fun t hb hl => e ⟨t, by rw [hb, hl]⟩]
    exact ⟨fun h => ⟨h, fun t et => e ⟨t, et⟩⟩, And.left⟩

theorem joinLines_cons (l : Bytes) (ls : List Bytes) : joinLines (l :: ls) = l ++ 13 :: 10 :: joinLines ls := by
  simp [joinLines, CRLF]

theorem splitLines_spec (b : Bytes) :
    b = joinLines (splitLines b).1 ++ (splitLines b).2 ∧
    (∀ l ∈ (splitLines b).1, hasCrlf l = false) ∧ hasCrlf (splitLines b).2 = false := by
  -- a line or rest that grows by `c` stays free of CRLF: `c :: r` does not start with one
  have grow : ∀ {c : Byte} {r x y : Bytes}, (∀ r', c = 13 → r = 10 :: r' → False) → r = x ++ y →
      hasCrlf x = false → hasCrlf (c :: x) = false := by
    intro c r x y hne hr hx
    refine hasCrlf_cons.mpr ⟨hx, fun t e => ?_⟩
    cases e
    exact hne _ rfl hr
  fun_induction splitLines b with
  | case1 r ls rest hs ih =>
    rw [hs] at ih
    exact ⟨congrArg (13 :: 10 :: ·) ih.1, List.forall_mem_cons.mpr ⟨rfl, ih.2.1⟩, ih.2.2⟩
  | case2 c r hne l ls rest hs ih =>
    rw [hs] at ih
    obtain ⟨h1, h2, h3⟩ := ih
    obtain ⟨hl, hls⟩ := List.forall_mem_cons.mp h2
    have h1' : r = l ++ (13 :: 10 :: joinLines ls ++ rest) := by rw [h1, joinLines_cons, List.append_assoc]
    exact ⟨congrArg (c :: ·) h1, List.forall_mem_cons.mpr ⟨grow hne h1' hl, hls⟩, h3⟩
  | case3 c r hne rest hs ih =>
    rw [hs] at ih
    exact ⟨congrArg (c :: ·) ih.1, List.forall_mem_nil _, grow hne (ih.1.trans (List.append_nil _).symm) ih.2.2⟩
  | case4 => exact ⟨rfl, List.forall_mem_nil _, rfl⟩

theorem relaxedGo_nonwsp {c : Byte} (r : Bytes) (hc : DkimVerifier.isWsp c = false) :
    relaxedGo (c :: r) = c :: relaxedGo r := by
  rw [relaxedGo.eq_def]; simp only [isWsp_eq, hc, Bool.false_eq_true, if_false]

theorem relaxedGo_wsp_crlf {c : Byte} (r : Bytes) (hc : DkimVerifier.isWsp c = true) :
    relaxedGo (c :: 13 :: 10 :: r) = relaxedGo (13 :: 10 :: r) := by
  rw [relaxedGo, isWsp_eq, if_pos hc]

theorem relaxedGo_wsp_cons {c : Byte} (d : Byte) (r : Bytes) (hc : DkimVerifier.isWsp c = true)
    (hd : ∀ t, d :: r ≠ 13 :: 10 :: t) :
    relaxedGo (c :: d :: r) =
      if DkimVerifier.isWsp d then relaxedGo (d :: r) else 32 :: relaxedGo (d :: r) := by
  -- the inner arm `d :: _`; its side condition: not `13 :: 10 :: _`
  rw [relaxedGo.eq_3 c d r fun t hd13 hr => hd t (by rw [hd13, hr]), isWsp_eq, if_pos hc]; rfl

theorem relaxedGo_line (l tail : Bytes) (hl : hasCrlf l = false) :
    relaxedGo (l ++ 13 :: 10 :: tail) = relaxedLine l ++ 13 :: 10 :: relaxedGo tail := by
  induction l using line_induction with
  | nil => exact (relaxedGo_nonwsp _ (by decide)).trans (congrArg _ (relaxedGo_nonwsp _ (by decide)))
  | nonwsp c l hc ih =>
    rw [relaxedLine_nonwsp l hc, List.cons_append, relaxedGo_nonwsp _ hc, ih (hasCrlf_cons.mp hl).1]; rfl
  | wsp c hc => rw [relaxedLine_wsp hc]; exact relaxedGo_wsp_crlf tail hc
  | wsp_cons c d l hc ih =>
    have hl' := (hasCrlf_cons.mp hl).1
    have hd : ∀ t, d :: (l ++ 13 :: 10 :: tail) ≠ 13 :: 10 :: t := by
      intro t e
      cases l with
      | nil => cases e
      | cons x l => cases e; cases hl'
    rw [relaxedLine_wsp_cons d l hc, List.cons_append, List.cons_append, relaxedGo_wsp_cons d _ hc hd,
      ← List.cons_append, ih hl']
    cases DkimVerifier.isWsp d <;> rfl

theorem relaxedGo_lines (ls : List Bytes) (x : Bytes) (h : ∀ l ∈ ls, hasCrlf l = false) :
    relaxedGo (joinLines ls ++ x) = joinLines (ls.map relaxedLine) ++ relaxedGo x := by
  induction ls with
  | nil => rfl
  | cons l ls ih =>
    obtain ⟨hl, hls⟩ := List.forall_mem_cons.mp h
    rw [joinLines_cons, List.append_assoc, List.cons_append, List.cons_append, relaxedGo_line l _ hl, ih hls,
      List.map_cons, joinLines_cons, List.append_assoc]
    rfl

theorem relaxedGo_body (body t : Bytes) :
    relaxedGo (body ++ 13 :: 10 :: t) = reduceWsp body ++ 13 :: 10 :: relaxedGo t := by
  obtain ⟨h1, h2, h3⟩ := splitLines_spec body
  conv => lhs; rw [h1]
  rw [List.append_assoc, relaxedGo_lines _ _ h2]
  exact (congrArg _ (relaxedGo_line _ t h3)).trans (List.append_assoc ..).symm

theorem relaxed_body_agrees (o : Opts) (ho : o.emptyRelaxed = true) (body : Bytes) :
    bodyCanon o .relaxed (body ++ CRLF) = relaxedBody body := by
  have : relaxedGo (body ++ CRLF) = reduceWsp body ++ CRLF := (relaxedGo_body body []).trans (by rw [relaxedGo]; rfl)
  -- with `s` the reader's stripped text the signer's `out` is `s ++ CRLF`: its test `out == CRLF` is the reader's `s.isEmpty`
  simp only [bodyCanon, ho, this, stripEmptyLines_crlf, relaxedBody, Bool.true_and, beq_iff_eq, List.append_left_eq_self,
    List.isEmpty_iff]

/-! ## the CRLF that SMTP DATA framing supplies -/

theorem stripTrailingCrlfs_crlf (x : Bytes) : stripTrailingCrlfs (x ++ CRLF) = stripTrailingCrlfs x := by
  simp [stripTrailingCrlfs, CRLF, dropCrlfRev]

theorem simpleBody_crlf (b : Bytes) : simpleBody (b ++ CRLF) = simpleBody b :=
  congrArg (· ++ CRLF) (stripTrailingCrlfs_crlf b)

theorem splitLines_append_crlf (b : Bytes) :
    splitLines (b ++ CRLF) = ((splitLines b).1 ++ [(splitLines b).2], []) := by
  -- `c :: (r ++ CRLF)` starts with CRLF only if `c :: r` does (the side condition of `splitLines`'s arm `b :: r`)
  have keep : ∀ {c : Byte} {r : Bytes}, (∀ r', c = 13 → r = 10 :: r' → False) →
      ∀ r', c = 13 → r ++ CRLF = 10 :: r' → False := by
    intro c r hne r' hc hr
    cases r with
    | nil => cases hr
    | cons d t => exact hne t hc (by rw [(List.cons.inj hr).1])
  fun_induction splitLines b with
  | case1 r ls rest hs ih => rw [hs] at ih; rw [List.cons_append, List.cons_append, splitLines, ih]; rfl
  | case2 c r hne l ls rest hs ih => rw [hs] at ih; rw [List.cons_append, splitLines.eq_2 _ _ (keep hne), ih]; rfl
  | case3 c r hne rest hs ih => rw [hs] at ih; rw [List.cons_append, splitLines.eq_2 _ _ (keep hne), ih]; rfl
  | case4 => rfl

theorem reduceWsp_crlf (b : Bytes) : reduceWsp (b ++ CRLF) = reduceWsp b ++ CRLF := by
  simp [reduceWsp, splitLines_append_crlf, joinLines, relaxedLine, stripTrailingWsp, compressWsp]

theorem relaxedBody_crlf (b : Bytes) : relaxedBody (b ++ CRLF) = relaxedBody b := by
  simp only [relaxedBody, reduceWsp_crlf b, stripTrailingCrlfs_crlf]

/-! ## relaxed header canonicalization -/

theorem wsp_ne13 {c : Byte} (h : DkimVerifier.isWsp c = true) : c ≠ 13 := by
  rintro rfl; cases h

theorem relH_value_fold (c : Byte) (r : Bytes) (hc : DkimVerifier.isWsp c = true) :
    relH .value (13 :: 10 :: c :: r) = relH .value (c :: r) := by
  rw [relH.eq_6, isWsp_eq, if_pos hc]  -- the arm `13 :: 10 :: d :: t`

/-- what follows the CRLF that ends a field: nothing, or an octet that is not SP / HTAB (`HeaderReader.NotCont`, spelt
    with `isWsp`) -/
def endsField (next : Bytes) : Prop := ∀ d t, next = d :: t → DkimVerifier.isWsp d = false

theorem relH_value_end (next : Bytes) (hn : endsField next) :
    relH .value (13 :: 10 :: next) = 13 :: 10 :: relH .name next := by
  cases next with
  | nil => rw [relH.eq_7, relH.eq_1]  -- the arms `[13, 10]` and `.name, []`
  | cons d t => rw [relH.eq_6, isWsp_eq, hn d t rfl]; rfl

theorem relH_value_nonwsp {b : Byte} (y : Bytes) (hb : DkimVerifier.isWsp b = false) (h13 : b ≠ 13) :
    relH .value (b :: y) = b :: relH .value y := by
  have h9 : (b == 9) = false := by
    rw [beq_eq_false_iff_ne]; rintro rfl; cases hb
  cases y with
  | nil => rw [relH.eq_9, relH.eq_5, h9]; rfl  -- the arms `[c]` and `[]`
  | cons d t =>
    -- the arm `c :: d :: t`; its side conditions: neither of the two CRLF arms
    rw [relH.eq_8 b d t (fun _ _ h => absurd h h13) (fun h => absurd h h13), isWsp_eq, hb]; rfl

theorem relH_value_wsp {b : Byte} (y : Bytes) (hb : DkimVerifier.isWsp b = true) :
    relH .value (b :: y) =
      if y.head?.any fun d => DkimVerifier.isWsp d || d == 13 then relH .value y else 32 :: relH .value y := by
  have h13 := wsp_ne13 hb
  have sp : ∀ x : Bytes, (if (b == 9) = true then 32 :: x else b :: x) = 32 :: x := fun x => by
    rcases Bool.or_eq_true_iff.mp hb with h | h
    · rw [beq_iff_eq.mp h]; rfl
    · rw [if_pos h]
  cases y with
  | nil => rw [relH.eq_9, relH.eq_5]; exact sp []
  | cons d t =>  -- the arm `c :: d :: t` again
    rw [relH.eq_8 b d t (fun _ _ h => absurd h h13) (fun h => absurd h h13), isWsp_eq, if_pos hb, sp]; rfl

theorem relH_value_flat (u next : Bytes) (hu : ∀ c ∈ u, c ≠ 13) (hn : endsField next) :
    relH .value (u ++ 13 :: 10 :: next) = relaxedLine u ++ 13 :: 10 :: relH .name next := by
  induction u using line_induction with
  | nil => exact relH_value_end next hn
  | nonwsp c l hc ih =>
    obtain ⟨hc13, hl⟩ := List.forall_mem_cons.mp hu
    rw [relaxedLine_nonwsp l hc, List.cons_append, relH_value_nonwsp _ hc hc13, ih hl]; rfl
  | wsp c hc => rw [relaxedLine_wsp hc]; exact (relH_value_wsp _ hc).trans (relH_value_end next hn)
  | wsp_cons c d l hc ih =>
    obtain ⟨-, hl⟩ := List.forall_mem_cons.mp hu
    have hd : (d == 13) = false := beq_eq_false_iff_ne.mpr (hl d List.mem_cons_self)
    rw [relaxedLine_wsp_cons d l hc, List.cons_append, List.cons_append, relH_value_wsp _ hc, List.head?_cons,
      Option.any_some, hd, Bool.or_false, ← List.cons_append, ih hl]
    cases DkimVerifier.isWsp d <;> rfl

theorem wf_fold {c : Byte} {r : Bytes} (hc : DkimVerifier.isWsp c = true) (hr : wfValue (c :: r) = true) :
    wfValue (13 :: 10 :: c :: r) = true := by
  rw [wfValue, isWsp_eq, hc, hr]; rfl

/-- the arm `_ :: r` of `wfValue`; its side conditions: none of the three arms for CR and LF -/
theorem wfValue_cons {e : Byte} (r : Bytes) (h13 : e ≠ 13) (h10 : e ≠ 10) : wfValue (e :: r) = wfValue r :=
  wfValue.eq_4 e r (fun _ _ h => absurd h h13) h13 h10

theorem wf_cons {e : Byte} {r : Bytes} (h13 : e ≠ 13) (h10 : e ≠ 10) (hr : wfValue r = true) :
    wfValue (e :: r) = true :=
  (wfValue_cons r h13 h10).trans hr

theorem wfValue_induction {P : ∀ v, wfValue v = true → Prop} (nil : P [] rfl)
    (fold : ∀ c r (hc : DkimVerifier.isWsp c = true) (hr : wfValue (c :: r) = true),
      P (c :: r) hr → P (13 :: 10 :: c :: r) (wf_fold hc hr))
    (cons : ∀ e r (h13 : e ≠ 13) (h10 : e ≠ 10) (hr : wfValue r = true), P r hr → P (e :: r) (wf_cons h13 h10 hr)) :
    ∀ v hv, P v hv := by
  intro v
  fun_induction wfValue v with
  | case1 c r ih =>
    intro h
    have h' := Bool.and_eq_true_iff.mp h
    exact fold c r h'.1 h'.2 (ih h'.2)
  | case2 t ht => intro h; rw [wfValue.eq_2 t ht] at h; cases h  -- the arm `13 :: _`
  | case3 => intro h; cases h
  | case4 e r he h13 h10 ih =>
    intro h
    have h' := (wfValue_cons r h13 h10).symm.trans h
    exact cons e r h13 h10 h' (ih h')
  | case5 => exact fun _ => nil

theorem wf_tail {e : Byte} {r : Bytes} (h : wfValue (e :: r) = true) (he : e ≠ 13) : wfValue r = true := by
  by_cases h10 : e = 10
  · rw [h10, wfValue] at h; cases h
  · exact (wfValue_cons r he h10).symm.trans h

theorem wf_dropWhile (v : Bytes) (hv : wfValue v = true) : wfValue (v.dropWhile DkimVerifier.isWsp) = true := by
  induction v with
  | nil => rfl
  | cons c r ih =>
    rw [List.dropWhile_cons]
    split
    · rename_i hc; exact ih (wf_tail hv (wsp_ne13 hc))
    · exact hv

/-- CR and LF removed -/
def F (x : Bytes) : Bytes := x.filter fun c => c != 13 && c != 10

theorem mem_F {c : Byte} {x : Bytes} : c ∈ F x ↔ c ∈ x ∧ c ≠ 13 ∧ c ≠ 10 := by
  rw [F, List.mem_filter, Bool.and_eq_true, bne_iff_ne, bne_iff_ne]

theorem F_append (a b : Bytes) : F (a ++ b) = F a ++ F b := List.filter_append ..

theorem F_cons_keep (c : Byte) (r : Bytes) (h : c ≠ 13 ∧ c ≠ 10) : F (c :: r) = c :: F r := by
  simp [F, h.1, h.2]

theorem F_spaceless (x : Bytes) (h : ∀ c ∈ x, c ≠ 13 ∧ c ≠ 10) : F x = x :=
  List.filter_eq_self.mpr fun c hc => by simp [h c hc]

theorem unfold_cons_ne13 (e : Byte) (r : Bytes) (he : e ≠ 13) :
    HeaderReader.unfold (e :: r) = e :: HeaderReader.unfold r :=
  HeaderReader.unfold.eq_2 e r fun _ _ h => absurd h he  -- the arm `b :: r`: not the fold before it

theorem unfold_fold (c : Byte) (r : Bytes) (hc : DkimVerifier.isWsp c = true) :
    HeaderReader.unfold (13 :: 10 :: c :: r) = HeaderReader.unfold (c :: r) := by
  rw [HeaderReader.unfold, if_pos (by simpa [DkimVerifier.isWsp] using hc)]

theorem unfold_eq_F (x : Bytes) (hx : wfValue x = true) : HeaderReader.unfold x = F x := by
  induction x, hx using wfValue_induction with
  | nil => rfl
  | fold c r hc _ ih => rw [unfold_fold c r hc, ih]; rfl
  | cons e r h13 h10 _ ih => rw [unfold_cons_ne13 e r h13, ih, F_cons_keep e r ⟨h13, h10⟩]

theorem head_of_unfold {x : Bytes} (hx : wfValue x = true) {d : Byte} {t : Bytes}
    (h : HeaderReader.unfold x = d :: t) (hd : DkimVerifier.isWsp d = false) : ∃ r, x = d :: r := by
  induction x, hx using wfValue_induction with
  | nil => cases h
  | fold c r hc _ _ =>
    rw [unfold_fold c r hc, unfold_cons_ne13 c r (wsp_ne13 hc)] at h
    rw [(List.cons.inj h).1, hd] at hc; cases hc
  | cons e r h13 _ _ _ =>
    rw [unfold_cons_ne13 e r h13] at h
    exact ⟨r, by rw [(List.cons.inj h).1]⟩

/-- the octet after a blank decides whether the blank stays: folded and unfolded text agree on it -/
theorem blank_head_unfold (r x : Bytes) (hr : wfValue r = true) :
    ((r ++ 13 :: x).head?.any fun d => DkimVerifier.isWsp d || d == 13) =
      ((HeaderReader.unfold r ++ 13 :: x).head?.any fun d => DkimVerifier.isWsp d || d == 13) := by
  induction r, hr using wfValue_induction with
  | nil => rfl
  | fold c r hc _ _ =>
    -- the heads are CR and the blank `c`: the test holds of both
    rw [unfold_fold c r hc, unfold_cons_ne13 c r (wsp_ne13 hc)]
    exact (Bool.or_eq_true_iff.mpr (.inl hc)).symm
  | cons e r h13 _ _ _ => rw [unfold_cons_ne13 e r h13]; rfl

theorem relH_value_unfold (v x : Bytes) (hv : wfValue v = true) :
    relH .value (v ++ 13 :: x) = relH .value (HeaderReader.unfold v ++ 13 :: x) := by
  induction v, hv using wfValue_induction with
  | nil => rfl
  | fold c r hc _ ih => rw [unfold_fold c r hc, ← ih]; exact relH_value_fold c _ hc
  | cons e r h13 _ hr ih =>
    rw [unfold_cons_ne13 e r h13, List.cons_append, List.cons_append]
    cases he : DkimVerifier.isWsp e with
    | true => rw [relH_value_wsp _ he, relH_value_wsp _ he, blank_head_unfold r x hr, ih]
    | false => rw [relH_value_nonwsp _ he h13, relH_value_nonwsp _ he h13, ih]

theorem flat_F (x : Bytes) : ∀ c ∈ F x, c ≠ 13 ∧ c ≠ 10 := fun _ hc => (mem_F.mp hc).2

theorem relH_value_field (v next : Bytes) (hv : wfValue v = true) (hn : endsField next) :
    relH .value (v ++ 13 :: 10 :: next) = relaxedLine (HeaderReader.unfold v) ++ 13 :: 10 :: relH .name next := by
  rw [relH_value_unfold v (10 :: next) hv, unfold_eq_F v hv]
  exact relH_value_flat _ next (fun c hc => (flat_F v c hc).1) hn

theorem relH_skip (v x : Bytes) :
    relH .skip (v ++ 13 :: x) = relH .value (v.dropWhile DkimVerifier.isWsp ++ 13 :: x) := by
  induction v with
  | nil => rw [List.nil_append, relH.eq_4, isWsp_eq, if_neg (by decide)]; rfl  -- the arm `.skip, c :: r`
  | cons c r ih =>
    rw [List.cons_append, relH.eq_4, isWsp_eq, List.dropWhile_cons]
    cases DkimVerifier.isWsp c
    · rfl
    · exact ih

theorem relH_name (name rest : Bytes) (hn : ∀ c ∈ name, c ≠ 58) :
    relH .name (name ++ 58 :: rest) = name ++ 58 :: relH .skip rest := by
  induction name with
  | nil => rw [List.nil_append, relH.eq_2]; rfl  -- the arm `.name, c :: r`
  | cons c r ih =>
    obtain ⟨hc, hr⟩ := List.forall_mem_cons.mp hn
    rw [List.cons_append, relH.eq_2, if_neg (by simpa using hc), ih hr]; rfl

/-- `h`: no fold follows the leading blanks -/
theorem dropWhile_unfold (v : Bytes) (h : ∀ d t, v.dropWhile DkimVerifier.isWsp = d :: t → d ≠ 13) :
    (HeaderReader.unfold v).dropWhile DkimVerifier.isWsp = HeaderReader.unfold (v.dropWhile DkimVerifier.isWsp) := by
  induction v with
  | nil => rfl
  | cons a v ih =>
    by_cases ha : DkimVerifier.isWsp a = true
    · rw [List.dropWhile_cons_of_pos ha] at h ⊢
      rw [unfold_cons_ne13 a v (wsp_ne13 ha), List.dropWhile_cons_of_pos ha, ih h]
    · rw [List.dropWhile_cons_of_neg ha] at h ⊢
      rw [unfold_cons_ne13 a v (h a v rfl), List.dropWhile_cons_of_neg ha]

/-- a field as `Headers` prints it and lettre's encoder produces it, under a lower-case name: the shape of the signer's
    `covered_headers` under relaxed canonicalization -/
structure WFField (h : Headers.HV) : Prop where
  nameNoColon : ∀ c ∈ h.name, c ≠ 58
  nameLower : h.name.map DkimVerifier.lower = h.name
  nameNoTrailWsp : stripTrailingWsp h.name = h.name
  nameStart : ∃ d t, h.name = d :: t ∧ DkimVerifier.isWsp d = false
  valueWf : wfValue h.encoded = true
  noLeadingFold : ∀ d t, h.encoded.dropWhile DkimVerifier.isWsp = d :: t → d ≠ 13

/-- the field as `Headers.display` prints it, without its CRLF: what the reader calls a `Field` -/
def fld (h : Headers.HV) : Bytes := h.name ++ [58, 32] ++ h.encoded

theorem fld_eq (h : Headers.HV) : fld h = h.name ++ 58 :: 32 :: h.encoded := by simp [fld]

theorem fieldName_colon (name rest : Bytes) (hn : ∀ c ∈ name, c ≠ 58) : fieldName (name ++ 58 :: rest) = name :=
  takeWhile_ne_append hn rest

theorem fieldValue_colon (name rest : Bytes) (hn : ∀ c ∈ name, c ≠ 58) : fieldValue (name ++ 58 :: rest) = rest := by
  rw [fieldValue, dropWhile_ne_append hn]; rfl

/-- a field name as the reader needs it: no colon, nothing to strip -/
structure NameOk (n : Bytes) : Prop where
  noColon : ∀ c ∈ n, c ≠ 58
  noTrail : stripTrailingWsp n = n

theorem fieldName_fld (h : Headers.HV) (hn : NameOk h.name) : fieldName (fld h) = h.name := by
  rw [fld_eq, fieldName_colon _ _ hn.noColon]

theorem fieldValue_fld (h : Headers.HV) (hn : NameOk h.name) : fieldValue (fld h) = 32 :: h.encoded := by
  rw [fld_eq, fieldValue_colon _ _ hn.noColon]

theorem relaxedField_fld (h : Headers.HV) (hn : NameOk h.name) :
    relaxedField (fld h) = (h.name.map DkimVerifier.lower ++ 58 ::
      relaxedLine ((HeaderReader.unfold (32 :: h.encoded)).dropWhile DkimVerifier.isWsp)) ++ CRLF := by
  simp only [relaxedField, fieldName_fld h hn, fieldValue_fld h hn, hn.noTrail, dropWhile_compress, strip_compress_comm,
    List.append_assoc, List.singleton_append]

theorem relH_field (h : Headers.HV) (hw : WFField h) (next : Bytes) (hn : endsField next) :
    relH .name (fld h ++ 13 :: 10 :: next) = relaxedField (fld h) ++ relH .name next := by
  have e : fld h ++ 13 :: 10 :: next = h.name ++ 58 :: ((32 :: h.encoded) ++ 13 :: (10 :: next)) := by
    rw [fld_eq, List.append_assoc]; rfl
  rw [e, relH_name _ _ hw.nameNoColon, relH_skip,
    List.dropWhile_cons_of_pos (by decide), relH_value_field _ next (wf_dropWhile _ hw.valueWf) hn,
    relaxedField_fld h ⟨hw.nameNoColon, hw.nameNoTrailWsp⟩, hw.nameLower, unfold_cons_ne13 _ _ (by decide),
    List.dropWhile_cons_of_pos (by decide), dropWhile_unfold _ hw.noLeadingFold, List.append_assoc, List.append_assoc]
  rfl

theorem display_cons (h : Headers.HV) (hs : List Headers.HV) :
    Headers.display (h :: hs) = fld h ++ 13 :: 10 :: Headers.display hs := by
  simp [Headers.display, fld]

theorem endsField_display (hs : List Headers.HV) (hw : ∀ h ∈ hs, WFField h) : endsField (Headers.display hs) := by
  intro d t hdt
  cases hs with
  | nil => cases hdt
  | cons h hs =>
    obtain ⟨d0, t0, hn, hd0⟩ := (hw h List.mem_cons_self).nameStart
    rw [display_cons, fld_eq, hn] at hdt
    cases hdt; exact hd0

theorem relH_display (hs : List Headers.HV) (hw : ∀ h ∈ hs, WFField h) :
    relH .name (Headers.display hs) = (hs.map fun h => relaxedField (fld h)).flatten := by
  induction hs with
  | nil => exact relH.eq_1  -- the arm `.name, []`
  | cons h hs ih =>
    obtain ⟨hh, hhs⟩ := List.forall_mem_cons.mp hw
    rw [display_cons, relH_field h hh _ (endsField_display hs hhs), ih hhs]
    rfl

/-! ## which fields are hashed: `insert_raw` de-duplication against RFC 6376 §5.4.2 selection -/

theorem lowerAscii_eq (b : Byte) : LV.lowerAscii b = Headers.lowerAscii b := by
  simp only [LV.lowerAscii, Headers.lowerAscii, UInt8.le_iff_toNat_le]; rfl

theorem lowerName_eq (n : Bytes) : lowerName n = n.map Headers.lowerAscii := by
  simp [lowerName, lowerAscii_eq]

theorem lower_eq (b : Byte) : DkimVerifier.lower b = Headers.lowerAscii b := rfl

theorem lowerAscii_cases (b : Byte) : Headers.lowerAscii b = b ∨
    (65 ≤ b.toNat ∧ b.toNat ≤ 90 ∧ (Headers.lowerAscii b).toNat = b.toNat + 32) := by
  unfold Headers.lowerAscii
  split
  · rename_i h
    exact Or.inr ⟨h.1, h.2, by rw [UInt8.toNat_add]; simp; omega⟩
  · exact Or.inl rfl

theorem lowerAscii_idem (b : Byte) : Headers.lowerAscii (Headers.lowerAscii b) = Headers.lowerAscii b := by
  rcases lowerAscii_cases b with h | ⟨_, _, h⟩
  · rw [h, h]
  · rw [Headers.lowerAscii, if_neg (by omega)]

theorem lowerName_idem (n : Bytes) : lowerName (lowerName n) = lowerName n := by
  simp [lowerName_eq, lowerAscii_idem]

theorem eqName_iff (a b : Bytes) : eqName a b = true ↔ lowerName a = lowerName b := by
  simp [eqName, lowerName_eq]

theorem eqName_lowerName (a b : Bytes) : eqName (lowerName a) (lowerName b) = eqName a b := by
  simp [eqName, lowerName_eq, Function.comp_def, lowerAscii_idem]

theorem nameIs_fld (n : Bytes) (h : HV) (hn : NameOk h.name) : nameIs n (fld h) = eqName h.name n := by
  rw [nameIs, fieldName_fld h hn, hn.noTrail]; rfl

theorem name_of_fld_eq {g h : HV} (hg : NameOk g.name) (hh : NameOk h.name) (he : fld g = fld h) : g.name = h.name := by
  rw [← fieldName_fld g hg, he, fieldName_fld h hh]

theorem map_lower (n : Bytes) : n.map DkimVerifier.lower = lowerName n :=
  (congrArg (n.map ·) (funext lower_eq)).trans (lowerName_eq n).symm

theorem relaxedField_congr {f g : HV} (hf : NameOk f.name) (hg : NameOk g.name)
    (hn : lowerName f.name = lowerName g.name)
    (hv : HeaderReader.unfold (32 :: f.encoded) = HeaderReader.unfold (32 :: g.encoded)) :
    relaxedField (fld f) = relaxedField (fld g) := by
  rw [relaxedField_fld f hf, relaxedField_fld g hg, map_lower, map_lower, hn, hv]

theorem nodup_map_fld (mail : List HV) (hu : Unique mail) (hok : ∀ h ∈ mail, NameOk h.name) : (mail.map fld).Nodup := by
  induction mail with
  | nil => exact List.nodup_nil
  | cons a l ih =>
    obtain ⟨ha, hl⟩ := List.forall_mem_cons.mp hok
    refine List.nodup_cons.mpr ⟨fun hm => ?_, ih hu.2 hl⟩
    obtain ⟨g, hg, he⟩ := List.mem_map.mp hm
    have := hu.1 g hg
    rw [name_of_fld_eq (hl g hg) ha he, eqName_refl] at this
    cases this

/-- the entry of `covered_headers` made from a field of the message under relaxed canonicalization -/
def lowered (h : HV) : HV := ⟨lowerName h.name, h.raw, h.encoded⟩

/-- the step of `dkim_canonicalize_headers` under relaxed canonicalization -/
def stepR (mail : List HV) (cov : List HV) (n : Bytes) : List HV :=
  match find mail n with
  | some h => insertRaw cov ⟨lowerName n, h.raw, h.encoded⟩
  | none => cov

theorem covered_relaxed (o : Opts) (names : List Bytes) (mail : List HV) :
    covered o .relaxed names mail = names.foldl (stepR mail) [] := by
  simp only [covered, tag, Bool.and_eq_true, beq_iff_eq, reduceCtorEq, and_false, if_false]; rfl

/-- `picked`: the fields of the message covered so far -/
theorem insertRaw_lowered (mail : List HV) (hu : Unique mail) (picked : List HV) (hp : ∀ g ∈ picked, g ∈ mail)
    (h : HV) (hh : h ∈ mail) :
    insertRaw (picked.map lowered) (lowered h) = if h ∈ picked then picked.map lowered else (picked ++ [h]).map lowered := by
  have key : ∀ g ∈ picked, eqName (lowered h).name (lowered g).name = true → g = h := fun g hg he =>
    (unique_eq mail hu h g hh (hp g hg) ((eqName_lowerName _ _).symm.trans he)).symm
  by_cases hany : (picked.map lowered).any (fun g => eqName (lowered h).name g.name) = true
  · obtain ⟨e, he, hee⟩ := List.any_eq_true.mp hany
    obtain ⟨g, hg, rfl⟩ := List.mem_map.mp he
    rw [insertRaw, if_pos hany, if_pos (key g hg hee ▸ hg), replaceFirst_same]
    intro e' he' hee'
    obtain ⟨g', hg', rfl⟩ := List.mem_map.mp he'
    rw [key g' hg' hee']
  · rw [insertRaw, if_neg hany, if_neg fun hm => hany (List.any_eq_true.mpr ⟨_, List.mem_map_of_mem hm, eqName_refl _⟩),
      List.map_append]
    rfl

/-- the reader's bookkeeping while it goes through `h=`: the fields of the message not yet taken, each once
    (their order does not matter: no two have the same name) -/
structure Avail (mail picked : List HV) (avail : List Field) : Prop where
  nodup : avail.Nodup
  mem : ∀ f, f ∈ avail ↔ ∃ g ∈ mail, g ∉ picked ∧ f = fld g

theorem avail_find_none {mail picked : List HV} {avail : List Field} (ha : Avail mail picked avail)
    (hok : ∀ h ∈ mail, NameOk h.name) (n : Bytes) (h : ∀ g ∈ mail, g ∉ picked → eqName g.name n = false) :
    avail.find? (nameIs n) = none := by
  refine List.find?_eq_none.mpr fun f hf => ?_
  obtain ⟨g, hg, hgp, rfl⟩ := (ha.mem f).mp hf
  rw [nameIs_fld n g (hok g hg), h g hg hgp]
  exact Bool.false_ne_true

theorem avail_find_some {mail picked : List HV} {avail : List Field} (ha : Avail mail picked avail)
    (hu : Unique mail) (hok : ∀ h ∈ mail, NameOk h.name) (n : Bytes) (h : HV) (hh : h ∈ mail) (hp : h ∉ picked)
    (hen : eqName h.name n = true) : avail.find? (nameIs n) = some (fld h) := by
  cases hx : avail.find? (nameIs n) with
  | none =>
    have := List.find?_eq_none.mp hx (fld h) ((ha.mem _).mpr ⟨h, hh, hp, rfl⟩)
    rw [nameIs_fld n h (hok h hh), hen] at this
    exact absurd rfl this
  | some f =>
    obtain ⟨g, hg, -, rfl⟩ := (ha.mem f).mp (List.mem_of_find?_eq_some hx)
    have hgn := List.find?_some hx
    rw [nameIs_fld n g (hok g hg)] at hgn
    rw [unique_eq mail hu g h hg hh (eqName_trans _ _ _ hgn (eqName_symm .. ▸ hen))]

theorem avail_erase {mail picked : List HV} {avail : List Field} (ha : Avail mail picked avail)
    (hok : ∀ h ∈ mail, NameOk h.name) (hu : Unique mail) (h : HV) (hh : h ∈ mail) :
    Avail mail (picked ++ [h]) (avail.erase (fld h)) := by
  refine ⟨ha.nodup.erase _, fun f => ?_⟩
  rw [ha.nodup.mem_erase_iff, ha.mem]
  constructor
  · rintro ⟨hne, g, hg, hgp, rfl⟩
    exact ⟨g, hg, by simpa [hgp] using fun e : g = h => hne (e ▸ rfl), rfl⟩
  · rintro ⟨g, hg, hgp, rfl⟩
    rw [List.mem_append, not_or, List.mem_singleton] at hgp
    exact ⟨fun e => hgp.2 (unique_eq mail hu g h hg hh
      (name_of_fld_eq (hok g hg) (hok h hh) e ▸ eqName_refl _)), g, hg, hgp.1, rfl⟩

/-- whatever `h=` lists, the signer (`insert_raw` de-duplication) and a §5.4.2 reader pick the same fields `sel` of the
    message in the same order; the signer keeps them under the lower-case name -/
theorem select_sim (mail : List HV) (hu : Unique mail) (hok : ∀ h ∈ mail, NameOk h.name) (names : List Bytes) :
    ∀ (picked : List HV) (avail : List Field), (∀ h ∈ picked, h ∈ mail) → Avail mail picked avail →
      ∃ sel : List HV, (∀ h ∈ sel, h ∈ mail) ∧ names.foldl (stepR mail) (picked.map lowered) = sel.map lowered ∧
        selectGo names avail (picked.map fld).reverse = sel.map fld := by
  induction names with
  | nil => exact fun picked _ hp _ => ⟨picked, hp, rfl, List.reverse_reverse _⟩
  | cons n ns ih =>
    intro picked avail hp ha
    rw [List.foldl_cons, selectGo, stepR]
    cases hf : find mail n with
    | none =>
      rw [avail_find_none ha hok n fun g hg _ => eqName_symm .. ▸ find_none hf g hg]
      exact ih picked avail hp ha
    | some h =>
      obtain ⟨hh, hen⟩ := find_some hf
      have hen' : eqName h.name n = true := eqName_symm .. ▸ hen
      have hl : (⟨lowerName n, h.raw, h.encoded⟩ : HV) = lowered h := by rw [lowered, (eqName_iff n h.name).mp hen]
      simp only [hl, insertRaw_lowered mail hu picked hp h hh]
      by_cases hm : h ∈ picked
      · -- already covered: nothing changes on either side
        rw [if_pos hm, avail_find_none ha hok n fun g hg hgp => ?_]
        · exact ih picked avail hp ha
        · cases he : eqName g.name n with
          | false => rfl
          | true => exact absurd (unique_eq mail hu g h hg hh (eqName_trans _ _ _ he hen) ▸ hm) hgp
      · -- first time: the signer appends, the reader takes the one field with that name
        rw [if_neg hm, avail_find_some ha hu hok n h hh hm hen']
        have := ih (picked ++ [h]) (avail.erase (fld h))
          (fun g hg => (List.mem_append.mp hg).elim (hp g) fun e => List.mem_singleton.mp e ▸ hh) (avail_erase ha hok hu h hh)
        rwa [List.map_append (f := fld), List.reverse_append] at this

theorem isWsp_lower (c : Byte) : DkimVerifier.isWsp (Headers.lowerAscii c) = DkimVerifier.isWsp c := by
  rcases lowerAscii_cases c with h | ⟨h1, _, h2⟩
  · rw [h]
  · -- neither a capital nor a small letter is a blank
    have ne : ∀ (x : Byte), 65 ≤ x.toNat → DkimVerifier.isWsp x = false := fun x hx => by
      simp only [DkimVerifier.isWsp, Bool.or_eq_false_iff, beq_eq_false_iff_ne]
      constructor <;> (rintro rfl; revert hx; decide)
    rw [ne c h1, ne _ (by omega)]

theorem strip_lower (n : Bytes) : stripTrailingWsp (lowerName n) = lowerName (stripTrailingWsp n) := by
  simp only [stripTrailingWsp, lowerName_eq, ← List.map_reverse, List.dropWhile_map]
  rw [show DkimVerifier.isWsp ∘ Headers.lowerAscii = DkimVerifier.isWsp from funext isWsp_lower]

theorem lower_noColon (n : Bytes) (h : ∀ c ∈ n, c ≠ 58) : ∀ c ∈ lowerName n, c ≠ 58 := by
  intro c hc
  rw [lowerName_eq] at hc
  obtain ⟨a, ha, rfl⟩ := List.mem_map.mp hc
  rcases lowerAscii_cases a with e | ⟨h1, _, h2⟩
  · rw [e]; exact h a ha
  · rintro e; rw [e] at h2; revert h2; simp; omega

theorem nameOk_lower {n : Bytes} (hn : NameOk n) : NameOk (lowerName n) :=
  ⟨lower_noColon n hn.noColon, (strip_lower n).trans (congrArg lowerName hn.noTrail)⟩

/-- a field of the message as the theorems need it: `WFField` without `nameLower` (the name in any letter case).
    `Dkim.mailFieldOk` is the Boolean the driver evaluates per case; no lemma links the two -/
structure WFMailField (h : HV) : Prop where
  nameNoColon : ∀ c ∈ h.name, c ≠ 58
  nameNoTrailWsp : stripTrailingWsp h.name = h.name
  nameStart : ∃ d t, h.name = d :: t ∧ DkimVerifier.isWsp d = false
  valueWf : wfValue h.encoded = true
  noLeadingFold : ∀ d t, h.encoded.dropWhile DkimVerifier.isWsp = d :: t → d ≠ 13

theorem nameOk_of_mail {h : HV} (hw : WFMailField h) : NameOk h.name := ⟨hw.nameNoColon, hw.nameNoTrailWsp⟩

theorem wfField_of_mail (h : HV) (hw : WFMailField h) : WFField (lowered h) := by
  have hn : NameOk (lowerName h.name) := nameOk_lower (nameOk_of_mail hw)
  refine ⟨hn.noColon, (map_lower _).trans (lowerName_idem h.name), hn.noTrail, ?_, hw.valueWf, hw.noLeadingFold⟩
  · obtain ⟨d, t, hdt, hd⟩ := hw.nameStart
    exact ⟨Headers.lowerAscii d, t.map Headers.lowerAscii, by rw [lowered, lowerName_eq, hdt]; rfl,
      (isWsp_lower d).trans hd⟩

theorem signed_fields_agree (o : Opts) (names : List Bytes) (mail : List HV) (hu : Unique mail)
    (hw : ∀ h ∈ mail, WFMailField h) :
    canonHeaders o .relaxed names mail = ((select names (mail.map fld)).map relaxedField).flatten := by
  have hok : ∀ h ∈ mail, NameOk h.name := fun h hh => nameOk_of_mail (hw h hh)
  obtain ⟨sel, hsel, (hcov : names.foldl (stepR mail) [] = sel.map lowered),
      (hselect : selectGo names (mail.map fld).reverse [] = sel.map fld)⟩ :=
    select_sim mail hu hok names [] (mail.map fld).reverse (fun _ h => nomatch h)
      ⟨(List.reverse_perm _).symm.nodup (nodup_map_fld mail hu hok), by
        simp only [List.mem_reverse, List.mem_map, List.not_mem_nil, not_false_eq_true, true_and, eq_comm, implies_true]⟩
  have hrel := relH_display (sel.map lowered) fun e he => by
    obtain ⟨h, hh, rfl⟩ := List.mem_map.mp he
    exact wfField_of_mail h (hw h (hsel h hh))
  rw [canonHeaders, covered_relaxed, select, hcov, hselect, hrel, List.map_map, List.map_map]
  exact congrArg _ (List.map_congr_left fun h hh =>
    relaxedField_congr (nameOk_lower (hok h (hsel h hh))) (hok h (hsel h hh)) (lowerName_idem h.name) rfl)

theorem signed_fields_input_agrees (names : List Bytes) (mail : List HV) (hu : Unique mail)
    (hw : ∀ h ∈ mail, WFMailField h) :
    canonHeaders ⟨true, true, true⟩ .relaxed names mail =
      ((select names (mail.map fld)).map relaxedField).flatten :=
  signed_fields_agree _ names mail hu hw

end LV.Dkim
