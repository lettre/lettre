import LettreVerif.Proofs.PoolHealthy
/-!
# Exactly once, message by message (C07)

`commits_equal_successes` balances the books in numbers; here they are kept per message (`C07.each_message_exactly_once`).
Both are `Books` (`PoolLts.lean`): for the class of all messages there, for the class `{(i, m)}` here.
-/
namespace LV.PoolLts

def isCommitOf (i m : Nat) : SEv → Bool
  | .commit a b => a == i && b == m
  | _ => false

def commitsOf (i m : Nat) (k : Conn) : Nat := k.hist.countP (isCommitOf i m)
def totalOf (i m : Nat) (s : St) : Nat := (s.conns.map (commitsOf i m)).sum

/-- 1 if the `m`-th result of sender `t` (in the order of its sends) is a success -/
def okAtS (m : Nat) (t : Sender) : Nat := if t.results.reverse[m]? = some .ok then 1 else 0
def okAt (i m : Nat) (s : St) : Nat := match s.senders[i]? with | some t => okAtS m t | none => 0

theorem commitsOf_say (i m : Nat) (k : Conn) (e : SEv) :
    commitsOf i m (say k e) = commitsOf i m k + (if isCommitOf i m e then 1 else 0) := by
  simp [commitsOf, say, List.countP_cons]

theorem totalOf_eq (i m : Nat) (s : St) : totalOf i m s = total (fun a b => a == i && b == m) s := by
  have : isCommitOf i m = commitP fun a b => a == i && b == m := by funext e; cases e <;> rfl
  have : commitsOf i m = cnt fun a b => a == i && b == m := by funext k; rw [commitsOf, this]; rfl
  rw [totalOf, this]; rfl

theorem totalOf_foldl {α : Type} (i m : Nat) (g : α → Nat) (f : Conn → Conn) (hf : ∀ k, commitsOf i m (f k) = commitsOf i m k)
    (l : List α) (s : St) : totalOf i m (l.foldl (fun s p => updConn s (g p) f) s) = totalOf i m s :=
  foldl_updConn_ind (Q := fun s' => totalOf i m s' = totalOf i m s) g f l s rfl fun s a h =>
    (sum_map_modify_same (commitsOf i m) f s.conns (g a) hf).trans h

theorem okAt_foldl {α : Type} (i m : Nat) (g : α → Nat) (f : Conn → Conn) (l : List α) (s : St) :
    okAt i m (l.foldl (fun s p => updConn s (g p) f) s) = okAt i m s := by
  rw [foldl_updConn_eq]; rfl

theorem getElem?_reverse_cons {α : Type} (r : α) (rs : List α) (m : Nat) :
    (r :: rs).reverse[m]? = if m = rs.length then some r else rs.reverse[m]? := by
  rw [List.reverse_cons, List.getElem?_append, List.length_reverse]
  rcases Nat.lt_trichotomy m rs.length with hlt | rfl | hgt
  · rw [if_pos hlt, if_neg (Nat.ne_of_lt hlt)]
  · rw [if_neg (Nat.lt_irrefl _), if_pos rfl, Nat.sub_self]; rfl
  · rw [if_neg (Nat.not_lt_of_gt hgt), if_neg (Nat.ne_of_gt hgt), List.getElem?_eq_none (Nat.sub_pos_of_lt hgt),
      List.getElem?_eq_none (by rw [List.length_reverse]; exact Nat.le_of_lt hgt)]

theorem okAtS_push (m : Nat) (t t' : Sender) (r : Res) (h : t'.results = r :: t.results) :
    okAtS m t' = okAtS m t + if r = .ok ∧ (t.results.length == m) = true then 1 else 0 := by
  unfold okAtS
  rw [h, getElem?_reverse_cons]
  by_cases hm : m = t.results.length
  · subst hm
    rw [if_pos rfl, List.getElem?_eq_none (by rw [List.length_reverse]; exact Nat.le_refl _)]
    simp only [Option.some.injEq, reduceCtorEq, if_false, beq_self_eq_true, and_true, Nat.zero_add]
  · rw [if_neg hm, if_neg (fun h : _ ∧ _ => hm (beq_iff_eq.mp h.2).symm)]; rfl

theorem credits_at (i m : Nat) :
    Credits (fun a b => a == i && b == m) fun l => match l[i]? with | some t => okAtS m t | none => 0 where
  push l j t f r ht hf := by
    by_cases h : j = i
    · subst h
      rw [List.getElem?_modify_eq, ht, beq_self_eq_true, Bool.true_and]
      exact okAtS_push m t (f t) r hf
    · rw [List.getElem?_modify_ne _ _ h, beq_false_of_ne h, Bool.false_and, if_neg (fun h : _ ∧ _ => nomatch h.2)]; rfl
  same l j f hf := by
    by_cases h : j = i
    · subst h
      rw [List.getElem?_modify_eq]
      cases l[j]? with
      | none => rfl
      | some t => show okAtS m (f t) = okAtS m t; rw [okAtS, okAtS, hf t]
    · rw [List.getElem?_modify_ne _ _ h]
  init n := by
    split
    · rename_i t ht; rw [List.eq_of_mem_replicate (List.mem_of_getElem? ht)]; rfl
    · rfl

theorem books_run {w : Nat → Nat → Bool} {cred : List Sender → Nat} (hc : Credits w cred) (isAsync : Bool)
    (maxSize minIdle sends nSenders : Nat) (plans : List Plan) (es : List Ev) (s : St)
    (hr : run (init isAsync maxSize minIdle sends nSenders plans) es = some s) : Books w cred s :=
  (run_inv (P := fun s => Ok s [] ∧ Books w cred s)
    (fun _ _ _ h hs => ⟨ok_step h.1 hs, books_step hc (ok_valid h.1) h.2 hs⟩) es _ s
    ⟨ok_init isAsync maxSize minIdle sends nSenders plans, books_init hc ..⟩ hr).2

end LV.PoolLts
