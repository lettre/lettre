import LettreVerif.Model.Client
import LettreVerif.Proofs.C15
/-!
# The client's operations, each characterised once

Every operation of `Model/Client.lean` either leaves the connection as usable as it was (`Wrote`) or has closed it with
`abort` (`Closed`).  The two records compose (`Wrote.trans`, `Closed.after`), so an operation built from guarded commands
is described by walking it once; what is on the wire, how long a send can wait, how many DATA commands there are and what
may be parked again are then read off the records.
-/
namespace LV.Client
open LV LV.Response

/-- the part of `Wrote` that holds of `abort` too -/
structure Step' (c c' : Conn) (us : List Bytes) : Prop where
  sent : c'.sent = us.reverse ++ c.sent
  info : c'.info = c.info

/-- `c'` is `c` after the units `us` (oldest first) were written and at most `k` reads waited on a silent peer; as open
    and as unbroken as it was -/
structure Wrote (c c' : Conn) (us : List Bytes) (k : Nat) : Prop extends Step' c c' us where
  shut : c'.shut = c.shut
  panic : c'.panic = c.panic
  le_blocked : c.blocked ≤ c'.blocked
  blocked_le : c'.blocked ≤ c.blocked + k

section
variable {c c' c1 c2 : Conn} {us vs : List Bytes} {j k : Nat}

namespace Wrote

theorem refl (c : Conn) : Wrote c c [] 0 := ⟨⟨rfl, rfl⟩, rfl, rfl, Nat.le_refl _, Nat.le_refl _⟩

theorem trans (h1 : Wrote c c1 us j) (h2 : Wrote c1 c2 vs k) :
    Wrote c c2 (us ++ vs) (j + k) where
  sent := by rw [h2.sent, h1.sent, List.reverse_append, List.append_assoc]
  info := h2.info.trans h1.info
  shut := h2.shut.trans h1.shut
  panic := h2.panic.trans h1.panic
  le_blocked := Nat.le_trans h1.le_blocked h2.le_blocked
  blocked_le := by have := h1.blocked_le; have := h2.blocked_le; omega

theorem mono (h : Wrote c c' us j) (hk : j ≤ k) : Wrote c c' us k :=
  { h with blocked_le := Nat.le_trans h.blocked_le (Nat.add_le_add_left hk _) }

theorem tighten (h : Wrote c c' us k) (hb : c'.blocked = c.blocked) : Wrote c c' us 0 :=
  { h with blocked_le := Nat.le_of_eq hb }

end Wrote
end

/-! ### `deliver`, `write`, `read`, `command` -/

theorem deliver_wrote (c : Conn) : Wrote c c.deliver [] 0 := by
  unfold Conn.deliver
  split
  · exact .refl c
  · split <;> exact ⟨⟨rfl, rfl⟩, rfl, rfl, Nat.le_refl _, Nat.le_refl _⟩

theorem write_wrote (c : Conn) (u : Bytes) : Wrote c (c.write u) (if c.shut then [] else [u]) 0 := by
  unfold Conn.write
  split
  · exact .refl c
  · have d := deliver_wrote { c with sent := u :: c.sent }
    exact ⟨⟨d.sent, d.info⟩, d.shut, d.panic, d.le_blocked, d.blocked_le⟩

theorem read_open (c : Conn) (h : c.shut = false) : ∃ res, c.read = ({ c with
      buf := (readResp c.buf).2
      blocked := if (c.stalled && (match parse c.buf with | .incomplete => true | _ => false)) = true
        then c.blocked + 1 else c.blocked }, res) ∧
    (res = .error .bad ∨ ∃ r, (readResp c.buf).1 = .reply r ∧ res = (match classify r.code with
        | .positive => .ok r
        | .transient => .error (.transient r.code r.lines.flatten)
        | .permanent => .error (.permanent r.code r.lines.flatten))) := by
  simp only [Conn.read, h, Bool.false_eq_true, if_false]
  cases readResp c.buf with
  | mk rr rest =>
    cases utf8Valid (List.take (c.buf.length - rest.length) c.buf)
    · exact ⟨_, rfl, .inl rfl⟩
    · cases rr with
      | bad => exact ⟨_, rfl, .inl rfl⟩
      | reply r =>
        simp only [Bool.not_true, Bool.false_eq_true, if_false]
        refine ⟨_, ?_, .inr ⟨r, rfl, rfl⟩⟩
        cases classify r.code <;> rfl

theorem read_shut (c : Conn) (h : c.shut = true) : c.read = (c, .error .bad) := by
  simp only [Conn.read, h, if_true]

theorem read_wrote (c : Conn) : Wrote c c.read.1 [] 1 := by
  cases h : c.shut
  · obtain ⟨_, he, _⟩ := read_open c h
    rw [he]
    have (p : Prop) [Decidable p] (n : Nat) : n ≤ (if p then n + 1 else n) ∧ (if p then n + 1 else n) ≤ n + 1 := by
      split <;> omega
    exact ⟨⟨rfl, rfl⟩, rfl, rfl, (this _ _).1, (this _ _).2⟩
  · rw [read_shut c h]
    exact (Wrote.refl c).mono (Nat.zero_le 1)

theorem read_blocked (c : Conn) :
    (c.read.1.blocked = c.blocked) ∨ (c.read.1.blocked = c.blocked + 1 ∧ ∃ e, c.read.2 = .error e) := by
  cases h : c.shut
  · obtain ⟨res, he, hres⟩ := read_open c h
    rw [he]
    by_cases hw : (c.stalled && (match parse c.buf with | .incomplete => true | _ => false)) = true
    · refine .inr ⟨if_pos hw, ?_⟩
      rcases hres with rfl | ⟨r, hr, _⟩
      · exact ⟨_, rfl⟩
      · rw [C15.incomplete_no_reply c.buf (by cases hp : parse c.buf <;> simp [hp] at hw; rfl)] at hr
        cases hr
    · exact .inl (if_neg hw)
  · rw [read_shut c h]
    exact .inl rfl

theorem command_wrote (c : Conn) (l : Bytes) : Wrote c (c.command l).1 (if c.shut then [] else [l]) 1 := by
  simpa [Conn.command] using (write_wrote c l).trans (read_wrote (c.write l))

theorem command_ok (c : Conn) (l : Bytes) (r : Resp) (h : (c.command l).2 = .ok r) :
    c.shut = false ∧ Wrote c (c.command l).1 [l] 0 := by
  have hs : c.shut = false := by
    cases hs : c.shut
    · rfl
    · rw [Conn.command, Conn.write, if_pos hs, read_shut c hs] at h; cases h
  have hw := command_wrote c l
  rw [hs] at hw
  refine ⟨hs, hw.tighten ?_⟩
  rcases read_blocked (c.write l) with hb | ⟨_, e, he⟩
  · exact hb.trans (Nat.le_antisymm (write_wrote c l).blocked_le (write_wrote c l).le_blocked)
  · rw [show (c.write l).read.2 = (c.command l).2 from rfl, h] at he; cases he

/-! ### `abort` and the guarded command (`try_smtp!`) -/

theorem abort_spec (c : Conn) :
    c.abort.shut = true ∧ c.abort.panic = true ∧ Step' c c.abort (if c.panic || c.shut then [] else [quitLine]) ∧
      c.abort.blocked ≤ c.blocked + 1 := by
  unfold Conn.abort
  cases hp : c.panic
  · have w := command_wrote { c with panic := true } quitLine
    simp only [Bool.false_eq_true, if_false, Bool.false_or]
    exact ⟨trivial, w.panic, ⟨w.sent, w.info⟩, w.blocked_le⟩
  · exact ⟨rfl, hp, ⟨rfl, rfl⟩, Nat.le_add_right ..⟩

/-- shut after the units `us` (oldest first) were written on top of `c0`, possibly followed by one `QUIT`: the part of
    `Closed` that the statements of C04 / C05 show -/
def Aborted (c0 c' : Conn) (us : List Bytes) : Prop :=
  c'.shut = true ∧ (c'.sent = us.reverse ++ c0.sent ∨ c'.sent = quitLine :: (us.reverse ++ c0.sent))

/-- `c'` is `c` closed by `abort` after the units `us`: `Aborted c c' us`, marked broken, at most `k` reads waited -/
structure Closed (c c' : Conn) (us : List Bytes) (k : Nat) : Prop where
  shut : c'.shut = true
  sent_cases : c'.sent = us.reverse ++ c.sent ∨ c'.sent = quitLine :: (us.reverse ++ c.sent)
  panic : c'.panic = true
  blocked_le : c'.blocked ≤ c.blocked + k

theorem abort_closed (c : Conn) : Closed c c.abort [] 1 := by
  obtain ⟨h1, h2, h3, h4⟩ := abort_spec c
  refine ⟨h1, ?_, h2, h4⟩
  rw [h3.sent]
  split
  · exact .inl rfl
  · exact .inr rfl

section
variable {c c' c1 c2 : Conn} {us vs : List Bytes} {j k : Nat}

namespace Closed

theorem aborted (h : Closed c c' us k) : Aborted c c' us := ⟨h.shut, h.sent_cases⟩

theorem after (h1 : Wrote c c1 us j) (h2 : Closed c1 c2 vs k) : Closed c c2 (us ++ vs) (j + k) where
  shut := h2.shut
  sent_cases := by rw [List.reverse_append, List.append_assoc, ← h1.sent]; exact h2.sent_cases
  panic := h2.panic
  blocked_le := by have := h1.blocked_le; have := h2.blocked_le; omega

theorem mono (h : Closed c c' us j) (hk : j ≤ k) : Closed c c' us k :=
  { h with blocked_le := Nat.le_trans h.blocked_le (Nat.add_le_add_left hk _) }

theorem mem_sent (h : Closed c c' us k) {u : Bytes} (hu : u ∈ c'.sent) : u = quitLine ∨ u ∈ us ∨ u ∈ c.sent := by
  rcases h.sent_cases with hs | hs <;> rw [hs] at hu
  · exact .inr (by simpa using hu)
  · simpa using hu

end Closed

namespace Wrote

theorem abort (h : Wrote c c' us k) : Closed c c'.abort us (k + 1) := by
  simpa using Closed.after h (abort_closed c')

theorem mem_sent (h : Wrote c c' us k) {u : Bytes} (hu : u ∈ c'.sent) : u ∈ us ∨ u ∈ c.sent := by
  rw [h.sent] at hu
  simpa using hu

end Wrote
end

theorem guarded_command (c : Conn) (l : Bytes) (h : c.shut = false) :
    (∃ r, (c.command l).2 = .ok r ∧ tryAbort (c.command l) = ((c.command l).1, .ok r) ∧
      Wrote c (c.command l).1 [l] 0) ∨
    (∃ e, tryAbort (c.command l) = ((c.command l).1.abort, .error e) ∧ Closed c (c.command l).1.abort [l] 2) := by
  have hw := command_wrote c l
  have hok := command_ok c l
  rw [h] at hw
  cases hr : c.command l with
  | mk c' res =>
    rw [hr] at hw hok
    cases res with
    | ok r => exact .inl ⟨r, rfl, rfl, (hok r rfl).2⟩
    -- 2: the command's own read may have waited, and the read after the QUIT of `abort`
    | error e => exact .inr ⟨e, rfl, hw.abort⟩

theorem testConnected_wrote {c c' : Conn} {ok : Bool} (h : c.testConnected = (c', ok)) :
    Wrote c c' (if c.shut then [] else [noopLine]) 1 ∧ (ok = true → c'.shut = false) := by
  have hw := command_wrote c noopLine
  have hok := command_ok c noopLine
  unfold Conn.testConnected at h
  cases hr : c.command noopLine with
  | mk c1 res =>
    rw [hr] at hw hok h
    cases res with
    | ok r => cases h; exact ⟨hw, fun _ => (hok r rfl).2.shut.trans (hok r rfl).1⟩
    | error e => cases h; exact ⟨hw, nofun⟩

/-! ### the mail transaction -/

/-- `k`: the index of the first recipient refused -/
theorem rcpts_spec (c : Conn) (to : List Bytes) (h : c.shut = false) :
    (∃ c', rcpts c to = (c', .ok ()) ∧ Wrote c c' (to.map rcptLine) 0) ∨
    (∃ c' e k, rcpts c to = (c', .error e) ∧ k < to.length ∧ Closed c c' ((to.take (k + 1)).map rcptLine) 2) := by
  induction to generalizing c with
  | nil => exact .inl ⟨c, rfl, .refl c⟩
  | cons a as ih =>
    simp only [rcpts]
    rcases guarded_command c (rcptLine a) h with ⟨r, _, ht, hw⟩ | ⟨e, ht, hc⟩ <;> rw [ht]
    · rcases ih _ (hw.shut.trans h) with ⟨c', h1, hw'⟩ | ⟨c', e, k, h1, hk, hc⟩ <;> simp only [h1]
      · exact .inl ⟨c', rfl, hw.trans hw'⟩
      · exact .inr ⟨c', e, k + 1, rfl, Nat.succ_lt_succ hk, Closed.after hw hc⟩
    · exact .inr ⟨_, e, 0, rfl, Nat.zero_lt_succ _, hc⟩

/-- refused before writing; or MAIL, every RCPT, DATA (`c1`) and the content all answered without waiting; or closed
    after a prefix of that sequence -/
theorem send_spec (c : Conn) (from? : Option Bytes) (to : List Bytes) (msg : Bytes) (h : c.shut = false) :
    ((c.send from? to msg) = (c, .error .client) ∧
        ((needsUtf8 from? to = true ∧ c.supports (·.smtpUtf8) = false) ∨
         (needsEight msg = true ∧ c.supports (·.eightBit) = false))) ∨
    (∃ (c1 : Conn) (r : Resp), (c.send from? to msg) = ((c1.message msg).1, .ok r) ∧ (c1.message msg).2 = .ok r ∧
        Wrote c c1 (mailLine from? (needsUtf8 from? to) (needsEight msg) :: to.map rcptLine ++ [dataLine]) 0 ∧
        Wrote c1 (c1.message msg).1 [Codec.wire msg] 0) ∨
    (∃ (c' : Conn) (e : Err) (us : List Bytes), (c.send from? to msg) = (c', .error e) ∧ Closed c c' us 2 ∧
        (us = [mailLine from? (needsUtf8 from? to) (needsEight msg)] ∨
         (∃ k, k < to.length ∧
            us = mailLine from? (needsUtf8 from? to) (needsEight msg) :: (to.take (k + 1)).map rcptLine) ∨
         us = mailLine from? (needsUtf8 from? to) (needsEight msg) :: to.map rcptLine ++ [dataLine] ∨
         us = mailLine from? (needsUtf8 from? to) (needsEight msg) :: to.map rcptLine ++
            [dataLine, Codec.wire msg])) := by
  generalize hmail : mailLine from? (needsUtf8 from? to) (needsEight msg) = mail
  -- the outcome stays a variable: `send` is evaluated in `hout`, not inside the long goal
  generalize hout : c.send from? to msg = out
  unfold Conn.send at hout
  by_cases h1 : (needsUtf8 from? to && !c.supports (·.smtpUtf8)) = true
  · rw [if_pos h1] at hout
    exact .inl ⟨hout.symm, .inl (by simpa using h1)⟩
  rw [if_neg h1] at hout
  by_cases h2 : (needsEight msg && !c.supports (·.eightBit)) = true
  · rw [if_pos h2] at hout
    exact .inl ⟨hout.symm, .inr (by simpa using h2)⟩
  rw [if_neg h2, hmail] at hout
  right
  rcases guarded_command c mail h with ⟨_, _, ht, hm⟩ | ⟨e, ht, hc⟩ <;> rw [ht] at hout
  · rcases rcpts_spec _ to (hm.shut.trans h) with ⟨c2, h1, hr⟩ | ⟨c2, e, k, h1, hk, hc⟩ <;> simp only [h1] at hout
    · have h2 := (hm.trans hr).shut.trans h
      rcases guarded_command c2 dataLine h2 with ⟨_, _, ht, hd⟩ | ⟨e, ht, hc⟩ <;> simp only [ht] at hout
      · have hw := (hm.trans hr).trans hd
        -- `message` is the command whose line is the content
        rcases guarded_command _ (Codec.wire msg) (hw.shut.trans h) with ⟨r, hr, ht, hx⟩ | ⟨e, ht, hc⟩
        · exact .inl ⟨_, r, hout.symm.trans ht, hr, hw, hx⟩
        · exact .inr ⟨_, e, _, hout.symm.trans ht, by simpa using Closed.after hw hc, .inr (.inr (.inr rfl))⟩
      · exact .inr ⟨_, e, _, hout.symm, by simpa using Closed.after (hm.trans hr) hc, .inr (.inr (.inl rfl))⟩
    · exact .inr ⟨c2, e, _, hout.symm, Closed.after hm hc, .inr (.inl ⟨k, hk, rfl⟩)⟩
  · exact .inr ⟨_, e, _, hout.symm, hc, .inl rfl⟩

theorem send_ok (c : Conn) (from? : Option Bytes) (to : List Bytes) (msg : Bytes) (h : c.shut = false) (r : Resp)
    (hok : (c.send from? to msg).2 = .ok r) :
    ∃ c1 : Conn, (c1.message msg).2 = .ok r ∧
      Wrote c c1 (mailLine from? (needsUtf8 from? to) (needsEight msg) :: to.map rcptLine ++ [dataLine]) 0 ∧
      Wrote c1 (c.send from? to msg).1 [Codec.wire msg] 0 := by
  rcases send_spec c from? to msg h with ⟨h1, _⟩ | ⟨c1, r', h1, h2, hw, hx⟩ | ⟨c', e, us, h1, _⟩ <;> rw [h1] at hok ⊢
  · cases hok
  · cases hok; exact ⟨c1, h2, hw, hx⟩
  · cases hok

theorem send_blocked (c : Conn) (from? : Option Bytes) (to : List Bytes) (msg : Bytes) (h : c.shut = false) :
    (c.send from? to msg).1.blocked ≤ c.blocked + 2 ∧
    ((c.send from? to msg).1.blocked ≠ c.blocked →
      (∃ e, (c.send from? to msg).2 = .error e) ∧ (c.send from? to msg).1.shut = true) := by
  rcases send_spec c from? to msg h with ⟨h1, _⟩ | ⟨c1, r, h1, _, hw, hx⟩ | ⟨c', e, us, h1, hc, _⟩ <;> rw [h1]
  · exact ⟨Nat.le_add_right .., fun hne => absurd rfl hne⟩
  · have hb : (c1.message msg).1.blocked ≤ c.blocked := (hw.trans hx).blocked_le
    exact ⟨Nat.le_add_right_of_le hb, fun hne => absurd (Nat.le_antisymm hb (hw.trans hx).le_blocked) hne⟩
  · exact ⟨hc.blocked_le, fun _ => ⟨⟨e, rfl⟩, hc.shut⟩⟩

/-! ### the greeting and EHLO -/

theorem ehlo_spec (c : Conn) (hello : Bytes) (h : c.shut = false) :
    (∃ c' i, c.ehlo hello = ({ c' with info := some i }, .ok ()) ∧ Wrote c c' [ehloLine hello] 0) ∨
    (∃ c' e, c.ehlo hello = (c', .error e) ∧ Closed c c' [ehloLine hello] 2) := by
  simp only [Conn.ehlo]
  rcases guarded_command c (ehloLine hello) h with ⟨r, _, ht, hw⟩ | ⟨e, ht, hc⟩ <;> rw [ht]
  · simp only
    split
    · exact .inl ⟨_, _, rfl, hw⟩
    · exact .inr ⟨_, _, rfl, hw.abort.mono (by decide)⟩
  · exact .inr ⟨_, e, rfl, hc⟩

/-- what `connect` and the transport's `open` do with a connection the peer has just accepted: read the greeting (an
    error there just drops the connection), then EHLO -/
def Conn.greet (c : Conn) (hello : Bytes) : Conn × Except Err Unit :=
  match c.read with
  | (c, .error e) => (c, .error e)
  | (c, .ok _) => c.ehlo hello

theorem connect_eq (script : List Step) (hello : Bytes) :
    connect script hello = (Conn.fresh script [] none).deliver.greet hello := rfl

theorem greet_spec (c : Conn) (hello : Bytes) (h : c.shut = false) :
    (∃ c' e, c.greet hello = (c', .error e) ∧ Wrote c c' [] 1) ∨
    (∃ c' i, c.greet hello = ({ c' with info := some i }, .ok ()) ∧ Wrote c c' [ehloLine hello] 0) ∨
    (∃ c' e, c.greet hello = (c', .error e) ∧ Closed c c' [ehloLine hello] 2) := by
  have hw := read_wrote c
  have hb := read_blocked c
  unfold Conn.greet
  cases hr : c.read with
  | mk c1 res =>
    rw [hr] at hw hb
    cases res with
    | error e => exact .inl ⟨c1, e, rfl, hw⟩
    | ok g =>
      have hw : Wrote c c1 [] 0 := hw.tighten (by rcases hb with hb | ⟨_, e, he⟩; exact hb; cases he)
      right
      rcases ehlo_spec c1 hello (hw.shut.trans h) with ⟨c', i, h1, hw'⟩ | ⟨c', e, h1, hc⟩ <;> simp only [h1]
      · exact .inl ⟨c', i, rfl, hw.trans hw'⟩
      · exact .inr ⟨c', e, rfl, Closed.after hw hc⟩

theorem greet_ok_open (c : Conn) (hello : Bytes) (hs : c.shut = false) (h : (c.greet hello).2 = .ok ()) :
    (c.greet hello).1.shut = false := by
  rcases greet_spec c hello hs with ⟨c', e, h1, _⟩ | ⟨c', i, h1, hw⟩ | ⟨c', e, h1, _⟩ <;> rw [h1] at h ⊢
  · cases h
  · exact hw.shut.trans hs
  · cases h

theorem connect_sent (script : List Step) (hello : Bytes) :
    ∀ u ∈ (connect script hello).1.sent, u = ehloLine hello ∨ u = quitLine := by
  have hd := deliver_wrote (Conn.fresh script [] none)
  rw [connect_eq]
  intro u
  rcases greet_spec _ hello hd.shut with ⟨c', e, h1, hw⟩ | ⟨c', i, h1, hw⟩ | ⟨c', e, h1, hc⟩ <;> rw [h1] <;> intro hu
  · exact nomatch (hd.trans hw).mem_sent hu
  · exact .inl (by simpa [Conn.fresh] using (hd.trans hw).mem_sent hu)
  · exact ((Closed.after hd hc).mem_sent hu).symm.imp (by simp [Conn.fresh]) id

theorem connect_ok_open (script : List Step) (hello : Bytes) (h : (connect script hello).2 = .ok ()) :
    (connect script hello).1.shut = false :=
  greet_ok_open _ hello (deliver_wrote (Conn.fresh script [] none)).shut h

/-! ### authentication -/

theorem mechResponse_some (m : Mech) (u p ch ans : Bytes) (h : mechResponse m u p (some ch) = some ans) :
    m = .login ∧ (ans = u ∨ ans = p) := by
  cases m <;> simp only [mechResponse, reduceCtorEq] at h
  split at h
  · exact ⟨rfl, .inl (Option.some.inj h).symm⟩
  · split at h
    · exact ⟨rfl, .inr (Option.some.inj h).symm⟩
    · cases h

theorem challengeAnswer_ok (m : Mech) (u p : Bytes) (r : Resp) (line : Bytes)
    (h : challengeAnswer m u p r = .ok line) :
    m = .login ∧ (line = Base64.enc u ++ CRLF ∨ line = Base64.enc p ++ CRLF) := by
  unfold challengeAnswer at h
  split at h
  · cases h
  · split at h
    · cases h
    · split at h
      · cases h
      · split at h
        · cases h
        · rename_i hresp
          cases h
          obtain ⟨hm, ha | ha⟩ := mechResponse_some m u p _ _ hresp <;> subst ha
          · exact ⟨hm, .inl rfl⟩
          · exact ⟨hm, .inr rfl⟩

theorem authLoop_spec (m : Mech) (u p : Bytes) (n : Nat) (c : Conn) (r : Resp) (h : c.shut = false) :
    ∃ us : List Bytes,
      (Wrote c (authLoop m u p n c r).1 us 0 ∨ Closed c (authLoop m u p n c r).1 us 2) ∧
      us.length ≤ n ∧ (∀ x ∈ us, x = Base64.enc u ++ CRLF ∨ x = Base64.enc p ++ CRLF) ∧
      (∀ r', (authLoop m u p n c r).2 = .ok r' → is334 r' = false) := by
  induction n generalizing c r with
  | zero => exact ⟨[], .inl (.refl c), Nat.le_refl _, List.forall_mem_nil _, by rintro _ ⟨⟩⟩
  | succ n ih =>
    simp only [authLoop]
    cases h3 : is334 r
    · exact ⟨[], .inl (.refl c), Nat.zero_le _, List.forall_mem_nil _, fun r' hr => by cases hr; exact h3⟩
    · simp only [Bool.not_true, Bool.false_eq_true, if_false]
      cases hca : challengeAnswer m u p r with
      | error e => exact ⟨[], .inl (.refl c), Nat.zero_le _, List.forall_mem_nil _, by rintro _ ⟨⟩⟩
      | ok line =>
        have hl := (challengeAnswer_ok m u p r line hca).2
        simp only
        rcases guarded_command c line h with ⟨r', _, ht, hw⟩ | ⟨e, ht, hc⟩ <;> rw [ht]
        · obtain ⟨us, hs, hlen, hall, hok⟩ := ih _ r' (hw.shut.trans h)
          exact ⟨line :: us, hs.imp hw.trans (Closed.after hw), Nat.succ_le_succ hlen, List.forall_mem_cons.mpr ⟨hl, hall⟩, hok⟩
        · exact ⟨[line], .inr hc, Nat.succ_le_succ (Nat.zero_le _), List.forall_mem_singleton.mpr hl, by rintro _ ⟨⟩⟩

end LV.Client
