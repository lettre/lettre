import LettreVerif.Model.PoolLts
import LettreVerif.Proofs.Bytes
/-!
# The pool transition system: what its operations do, and the invariants that need no more than that

Everything here is read off three descriptions, each stated once: what an operation on one connection does to the history,
`closed` and `broken`; which outcomes a transition has (`step_cases`); and that a property kept by every transition holds
along every run (`run_inv`).
-/
namespace LV.PoolLts

/-! ## frame facts -/

@[simp] theorem updConn_idle (s : St) (c : Nat) (f : Conn → Conn) : (updConn s c f).idle = s.idle := rfl
@[simp] theorem updConn_maxSize (s : St) (c : Nat) (f : Conn → Conn) : (updConn s c f).maxSize = s.maxSize := rfl
@[simp] theorem updConn_senders (s : St) (c : Nat) (f : Conn → Conn) : (updConn s c f).senders = s.senders := rfl
@[simp] theorem updConn_isAsync (s : St) (c : Nat) (f : Conn → Conn) : (updConn s c f).isAsync = s.isAsync := rfl
@[simp] theorem updConn_maint (s : St) (c : Nat) (f : Conn → Conn) : (updConn s c f).maint = s.maint := rfl
@[simp] theorem updConn_minIdle (s : St) (c : Nat) (f : Conn → Conn) : (updConn s c f).minIdle = s.minIdle := rfl
@[simp] theorem updConn_sends (s : St) (c : Nat) (f : Conn → Conn) : (updConn s c f).sends = s.sends := rfl
@[simp] theorem updConn_recyclers (s : St) (c : Nat) (f : Conn → Conn) : (updConn s c f).recyclers = s.recyclers := rfl
@[simp] theorem updSender_idle (s : St) (i : Nat) (f : Sender → Sender) : (updSender s i f).idle = s.idle := rfl
@[simp] theorem updSender_maxSize (s : St) (i : Nat) (f : Sender → Sender) : (updSender s i f).maxSize = s.maxSize := rfl
@[simp] theorem updSender_conns (s : St) (i : Nat) (f : Sender → Sender) : (updSender s i f).conns = s.conns := rfl
@[simp] theorem updSender_maint (s : St) (i : Nat) (f : Sender → Sender) : (updSender s i f).maint = s.maint := rfl

@[simp] theorem updConn_conns_length (s : St) (d : Nat) (f : Conn → Conn) : (updConn s d f).conns.length = s.conns.length := by
  simp [updConn]

theorem getConn_of_conns_eq {s s' : St} (h : s'.conns = s.conns) (c : Nat) : getConn s' c = getConn s c := by
  simp only [getConn, h]

theorem getConn_updConn_ne (s : St) (d c : Nat) (f : Conn → Conn) (h : d ≠ c) : getConn (updConn s d f) c = getConn s c := by
  simp [getConn, updConn, h]

theorem getConn_updConn_eq (s : St) (c : Nat) (f : Conn → Conn) (hc : c < s.conns.length) :
    getConn (updConn s c f) c = f (getConn s c) := by
  simp [getConn, updConn, hc]

/-- so that every change to `conns` can be written `updConn s c F` with an `F` that does not look at the state -/
theorem updConn_getConn (s : St) (c : Nat) (F : Conn → Conn) : updConn s c (fun _ => F (getConn s c)) = updConn s c F := by
  have : s.conns.modify c (fun _ => F (getConn s c)) = s.conns.modify c F := by
    apply List.ext_getElem?
    intro j
    simp only [List.getElem?_modify, getConn]
    by_cases h : c = j
    · subst h; cases hk : s.conns[c]? <;> simp [hk]
    · simp [h]
  simp only [updConn, this]

theorem foldl_updConn_ind {α : Type} {Q : St → Prop} (g : α → Nat) (f : Conn → Conn) (l : List α) (s : St) (h0 : Q s)
    (hstep : ∀ s a, Q s → Q (updConn s (g a) f)) : Q (l.foldl (fun s p => updConn s (g p) f) s) := by
  induction l generalizing s with
  | nil => exact h0
  | cons a l ih => exact ih _ (hstep s a h0)

theorem foldl_updConn_eq {α : Type} (g : α → Nat) (f : Conn → Conn) (l : List α) (s : St) :
    l.foldl (fun s p => updConn s (g p) f) s = { s with conns := l.foldl (fun cs p => cs.modify (g p) f) s.conns } := by
  induction l generalizing s with
  | nil => rfl
  | cons a l ih => exact ih _

theorem foldl_updConn_length {α : Type} (g : α → Nat) (f : Conn → Conn) (l : List α) (s : St) :
    (l.foldl (fun s p => updConn s (g p) f) s).conns.length = s.conns.length :=
  foldl_updConn_ind (Q := fun s' => s'.conns.length = s.conns.length) g f l s rfl fun _ _ h => by simpa using h

theorem getConn_foldl_of_not_mem {α : Type} (g : α → Nat) (f : Conn → Conn) (l : List α) (s : St) (d : Nat) (h : d ∉ l.map g) :
    getConn (l.foldl (fun s p => updConn s (g p) f) s) d = getConn s d := by
  induction l generalizing s with
  | nil => rfl
  | cons a l ih =>
    simp only [List.map_cons, List.mem_cons, not_or] at h
    simp only [List.foldl]
    rw [ih _ h.2, getConn_updConn_ne _ _ _ _ (fun e => h.1 e.symm)]

/-! ## what happens to one connection: history, `closed`, `broken` -/

theorem abortConn_closed (k : Conn) : (abortConn k).closed = true ∧ ((abortConn k).broken = true ∨ k.closed = true) := by
  unfold abortConn
  by_cases h : k.closed <;> simp [h]

theorem abortConn_hist (k : Conn) : ∃ tail, (abortConn k).hist = tail ++ k.hist ∧ ∀ e ∈ tail, e = .quit ∨ e = .eof := by
  -- with the three flags taken out of the record, each case computes
  obtain ⟨_, _, _, _, _, _, _, alive, closed, broken, _, _, _⟩ := k
  cases closed
  · cases broken <;> cases alive
    · exact ⟨[], rfl, List.forall_mem_nil _⟩
    · exact ⟨[.eof, .quit], rfl, List.forall_mem_cons.mpr ⟨.inr rfl, List.forall_mem_singleton.mpr (.inl rfl)⟩⟩
    · exact ⟨[], rfl, List.forall_mem_nil _⟩
    · exact ⟨[.eof], rfl, List.forall_mem_singleton.mpr (.inr rfl)⟩
  · exact ⟨[], rfl, List.forall_mem_nil _⟩

theorem abortConn_quit (k : Conn) (h1 : k.closed = false) (h2 : k.broken = false) (h3 : k.peerAlive = true) :
    (abortConn k).hist = .eof :: .quit :: k.hist := by
  simp [abortConn, h1, h2, h3, say]

theorem dropConn_closed (k : Conn) : (dropConn k).closed = true := by
  unfold dropConn
  by_cases h : k.closed <;> simp [h]

theorem dropConn_hist (k : Conn) : ∃ tail, (dropConn k).hist = tail ++ k.hist ∧ ∀ e ∈ tail, e = .eof := by
  obtain ⟨_, _, _, _, _, _, _, alive, closed, _, _, _, _⟩ := k
  cases closed
  · cases alive
    · exact ⟨[], rfl, List.forall_mem_nil _⟩
    · exact ⟨[.eof], rfl, List.forall_mem_singleton.mpr rfl⟩
  · exact ⟨[], rfl, List.forall_mem_nil _⟩

theorem probe_dead (k : Conn) (hd : k.peerAlive = false) : probe k = (k, false) := by
  simp [probe, hd]

/-- `x` is the outcome of a probe of `k`; `es`: what the peer has seen of it -/
structure Probed (k : Conn) (x : Conn × Bool) (es : List SEv) : Prop where
  closed : x.1.closed = k.closed
  broken : x.1.broken = k.broken
  hist : x.1.hist = es ++ k.hist
  evs : ∀ e ∈ es, e = .noop ∨ e = .kill
  ok : x.2 = true → es = [.noop]

theorem probe_spec (k : Conn) : ∃ es, Probed k (probe k) es := by
  -- the outcome stands once, under `Q`, and is taken apart there; `dsimp` flattens the nested `with` first (`rfl` through them
  -- is exponential)
  let Q := fun x => ∃ es, Probed k x es
  show Q (probe k)
  unfold probe
  dsimp only [say]
  have noop : ∀ e ∈ [SEv.noop], e = .noop ∨ e = .kill := fun _ h => .inl (List.mem_singleton.mp h)
  refine iteInduction (fun _ => ⟨[], rfl, rfl, rfl, List.forall_mem_nil _, nofun⟩) fun _ => ?_
  refine iteInduction (fun _ => ⟨[.kill, .noop], rfl, rfl, rfl, List.forall_mem_cons.mpr ⟨.inr rfl, noop⟩, nofun⟩) fun _ => ?_
  exact iteInduction (fun _ => ⟨[.noop], rfl, rfl, rfl, noop, nofun⟩) fun _ => ⟨[.noop], rfl, rfl, rfl, noop, fun _ => rfl⟩

/-- `x`, the outcome of a transaction of sender `i` on `k`, is a failure: `k'` is the connection when it is given up, `body`
    what the peer has seen of the transaction until then -/
structure Refused (k : Conn) (i : Nat) (x : Conn × Res) (k' : Conn) (body : List SEv) : Prop where
  conn : x.1 = abortConn k'
  res : x.2 ≠ .ok
  hist : k'.hist = body ++ k.hist
  closed : k'.closed = k.closed
  broken : k'.broken = k.broken
  body : body = [] ∨ body = [.rcptRej, .mail i] ∨ body = [.rcptTemp, .mail i] ∨ body = [.dataTemp, .rcpt, .mail i]

/-- `x` is a success with message `m`; `tail`: the peer's own close after it -/
structure Committed (k : Conn) (i m : Nat) (x : Conn × Res) (tail : List SEv) : Prop where
  res : x.2 = .ok
  hist : x.1.hist = tail ++ [.commit i m, .data, .rcpt, .mail i] ++ k.hist
  tail : tail = [] ∨ tail = [.kill]
  closed : x.1.closed = k.closed
  broken : x.1.broken = k.broken

theorem transact_spec (k : Conn) (i m : Nat) :
    (∃ k' body, Refused k i (transact k i m) k' body) ∨ ∃ tail, Committed k i m (transact k i m) tail := by
  let Q := fun x => (∃ k' body, Refused k i x k' body) ∨ ∃ tail, Committed k i m x tail
  show Q (transact k i m)
  unfold transact
  dsimp only [say]
  refine iteInduction (fun _ => .inl ⟨k, [], rfl, nofun, rfl, rfl, rfl, .inl rfl⟩) fun _ => ?_
  refine iteInduction (fun _ => .inl ⟨_, [.rcptRej, .mail i], rfl, nofun, rfl, rfl, rfl, .inr (.inl rfl)⟩) fun _ => ?_
  refine iteInduction (fun _ => .inl ⟨_, [.rcptTemp, .mail i], rfl, nofun, rfl, rfl, rfl, .inr (.inr (.inl rfl))⟩) fun _ => ?_
  refine iteInduction (fun _ => .inl ⟨_, [.dataTemp, .rcpt, .mail i], rfl, nofun, rfl, rfl, rfl, .inr (.inr (.inr rfl))⟩) fun _ => ?_
  exact iteInduction (fun _ => .inr ⟨[.kill], rfl, rfl, .inr rfl, rfl, rfl⟩) fun _ => .inr ⟨[], rfl, rfl, .inl rfl, rfl, rfl⟩

theorem openConn_conns_length (s : St) : (openConn s).1.conns.length = s.conns.length + 1 := by
  simp [openConn]
@[simp] theorem openConn_idle (s : St) : (openConn s).1.idle = s.idle := rfl
@[simp] theorem openConn_maxSize (s : St) : (openConn s).1.maxSize = s.maxSize := rfl

theorem openConn_conns (s : St) :
    ∃ k, (openConn s).1.conns = s.conns ++ [k] ∧ k.closed = false ∧ k.broken = false ∧ ∀ e ∈ k.hist, e = .ehlo ∨ e = .kill := by
  refine ⟨_, rfl, ?_⟩
  split
  · exact ⟨rfl, rfl, List.forall_mem_cons.mpr ⟨.inr rfl, List.forall_mem_singleton.mpr (.inl rfl)⟩⟩
  · exact ⟨rfl, rfl, List.forall_mem_singleton.mpr (.inl rfl)⟩

theorem getConn_openConn_ne (s : St) (d : Nat) (h : d ≠ s.conns.length) : getConn (openConn s).1 d = getConn s d := by
  obtain ⟨k, hk, -⟩ := openConn_conns s
  rw [getConn, getConn, hk, List.getD_eq_getElem?_getD, List.getD_eq_getElem?_getD]
  rcases Nat.lt_or_gt_of_ne h with hlt | hgt
  · rw [List.getElem?_append_left hlt]
  · rw [List.getElem?_eq_none (Nat.le_of_lt hgt), List.getElem?_eq_none (by rw [List.length_append]; exact hgt)]

/-! ## the outcomes of a transition -/

theorem sendOn_eq (s : St) (i c : Nat) :
    sendOn s i c = finishSend (updConn s c fun k => (transact k i (s.senders.getD i {}).next).1) i c
      (transact (getConn s c) i (s.senders.getD i {}).next).2 := by
  rw [← updConn_getConn]; rfl

theorem usePopped_eq (s : St) (i c : Nat) (rest : List (Nat × Bool)) :
    usePopped s i c rest =
      if (probe (getConn s c)).2 = true then sendOn (updConn { s with idle := some rest } c fun k => (probe k).1) i c
      else updConn { s with idle := some rest } c fun k => abortConn (probe k).1 := by
  rw [← updConn_getConn, ← updConn_getConn _ _ fun k => abortConn (probe k).1]; rfl

/-- the three ways a send ends -/
theorem finishSend_eq (s : St) (i c : Nat) (r : Res) :
    (s.isAsync = true ∧ finishSend s i c r =
      updSender { s with recyclers := s.recyclers ++ [if (getConn s c).broken then none else some c] } i
        fun t => { t with next := t.next + 1, results := r :: t.results }) ∨
    (s.isAsync = false ∧ (getConn s c).broken = true ∧
      finishSend s i c r = updSender s i fun t => { t with next := t.next + 1, results := r :: t.results }) ∨
    (s.isAsync = false ∧ (getConn s c).broken = false ∧
      finishSend s i c r = updSender s i fun t => { t with holding := some c, results := r :: t.results }) := by
  unfold finishSend
  cases s.isAsync
  · cases (getConn s c).broken
    · exact .inr (.inr ⟨rfl, rfl, rfl⟩)
    · exact .inr (.inl ⟨rfl, rfl, rfl⟩)
  · exact .inl ⟨rfl, rfl⟩

theorem recycleConn_cases {P : St → Prop} (s : St) (c : Nat) (abort : P (updConn s c abortConn))
    (park : ∀ l, s.idle = some l → l.length < s.maxSize → P { s with idle := some ((c, false) :: l) }) : P (recycleConn s c) := by
  unfold recycleConn
  split
  · exact abort
  · split
    · exact abort
    · exact park _ ‹_› (Nat.lt_of_not_le ‹_›)

/-- `o.elim True P`: `P` of what `o` holds, if it holds anything -/
theorem elim_ite {α : Type} {c : Prop} [Decidable c] {x y : Option α} {P : α → Prop} (hp : c → x.elim True P)
    (hn : ¬c → y.elim True P) : (if c then x else y).elim True P :=
  iteInduction (motive := fun o : Option α => o.elim True P) hp hn

theorem step_cases {P : St → Prop} {s s' : St} {e : Ev} (hs : step s e = some s')
    (shut : ∀ i t, s.senders[i]? = some t → t.holding = none → s.idle = none →
      P (updSender s i fun t => { t with next := t.next + 1, results := .shutdown :: t.results }))
    (fresh : ∀ i t, s.senders[i]? = some t → t.holding = none → s.idle = some [] → P (sendOn (openConn s).1 i s.conns.length))
    (popOk : ∀ i t c x rest, s.senders[i]? = some t → t.holding = none → s.idle = some ((c, x) :: rest) →
      (probe (getConn s c)).2 = true → P (sendOn (updConn { s with idle := some rest } c fun k => (probe k).1) i c))
    (popFail : ∀ c x rest, s.idle = some ((c, x) :: rest) → (probe (getConn s c)).2 = false →
      P (updConn { s with idle := some rest } c fun k => abortConn (probe k).1))
    (recycleTask : ∀ w c, s.recyclers[w]? = some (some c) →
      P (recycleConn { s with recyclers := s.recyclers.set w none } c))
    (recycleSender : ∀ w t c, s.senders[w]? = some t → t.holding = some c →
      P (recycleConn (updSender s w fun t => { t with holding := none, next := t.next + 1 }) c))
    (scanShut : (∀ c m d, s.maint ≠ .push c m d) → s.idle = none → P { s with maint := .exited })
    (scan : ∀ l, (∀ c m d, s.maint ≠ .push c m d) → s.idle = some l →
      P (maintContinue { s with idle := some (l.filter (!·.2)) } (s.minIdle - (l.filter (!·.2)).length)
        ((l.filter (·.2)).map (·.1))))
    (pushShut : ∀ c more dropped, s.maint = .push c more dropped → s.idle = none →
      P { (c :: dropped).foldl (fun s c => updConn s c dropConn) s with maint := .exited })
    (pushFull : ∀ c more dropped l, s.maint = .push c more dropped → s.idle = some l →
      P (maintContinue (updConn s c abortConn) 0 dropped))
    (push : ∀ c more dropped l, s.maint = .push c more dropped → s.idle = some l → (capFix = true → l.length < s.maxSize) →
      P (maintContinue { s with idle := some ((c, false) :: l) } more dropped))
    (shutdown : P (shutdownLock s)) (wait : P (waitEv s)) : P s' := by
  -- `P` of whatever the step returns, so that the case analysis runs on the goal
  suffices key : (step s e).elim True P by rw [hs] at key; exact key
  cases e with
  | connectionLock i =>
    rw [step, connectionLock]
    split
    · trivial
    · rename_i t ht
      refine elim_ite (fun _ => trivial) fun hg => ?_
      have hh : t.holding = none := Option.not_isSome_iff_eq_none.mp fun h => hg (by rw [h]; rfl)
      split
      · exact shut i t ht hh ‹_›
      · exact fresh i t ht hh ‹_›
      · rw [usePopped_eq]
        split
        · exact popOk i t _ _ _ ht hh ‹_› ‹_›
        · exact popFail _ _ _ ‹_› ((Bool.not_eq_true _).mp ‹_›)
  | recycleLock w =>
    rw [step, recycleLock]
    refine elim_ite (fun _ => ?_) fun _ => ?_
    · split
      · exact recycleTask w _ ‹_›
      · trivial
    · split
      · trivial
      · split
        · trivial
        · exact recycleSender w _ _ ‹_› ‹_›
  | maintScan =>
    rw [step, maintScan]
    refine elim_ite (fun _ => trivial) fun hm => ?_
    have hm' : ∀ c m d, s.maint ≠ .push c m d := fun c m d h => hm (by rw [h]; rfl)
    split
    · exact scanShut hm' ‹_›
    · exact scan _ hm' ‹_›
  | maintPush =>
    rw [step, maintPush]
    split
    · split
      · exact pushShut _ _ _ ‹_› ‹_›
      · refine elim_ite (fun _ => ?_) fun h => ?_
        · exact pushFull _ _ _ _ ‹_› ‹_›
        · exact push _ _ _ _ ‹_› ‹_› (fun hf => by simpa [hf] using h)
    · trivial
  | shutdownLock => exact shutdown
  | wait => exact wait

theorem run_inv {P : St → Prop} (hstep : ∀ s e s', P s → step s e = some s' → P s') (es : List Ev) (s s' : St) (h : P s)
    (hr : run s es = some s') : P s' := by
  induction es generalizing s with
  | nil => cases hr; exact h
  | cons e es ih =>
    simp only [run] at hr
    cases hst : step s e with
    | none => simp [hst] at hr
    | some s1 => rw [hst] at hr; exact ih s1 (hstep s e s1 h hst) hr

/-- every connection id the pool or a thread holds refers to a connection that exists (an invariant: `ok_valid`) -/
structure Valid (s : St) : Prop where
  idle : ∀ l, s.idle = some l → ∀ p ∈ l, p.1 < s.conns.length
  hold : ∀ t ∈ s.senders, ∀ c, t.holding = some c → c < s.conns.length
  recy : ∀ c, some c ∈ s.recyclers → c < s.conns.length
  mnt : ∀ c m d, s.maint = .push c m d → c < s.conns.length ∧ ∀ x ∈ d, x < s.conns.length

/-! ## the idle list: shutdown is final (C09), the list stays within `max_size` (C08) -/

theorem finishSend_frame (s : St) (i c : Nat) (r : Res) :
    (finishSend s i c r).idle = s.idle ∧ (finishSend s i c r).maxSize = s.maxSize ∧ (finishSend s i c r).conns = s.conns := by
  rcases finishSend_eq s i c r with ⟨-, h⟩ | ⟨-, -, h⟩ | ⟨-, -, h⟩ <;> rw [h] <;> exact ⟨rfl, rfl, rfl⟩

@[simp] theorem sendOn_frame (s : St) (i c : Nat) : (sendOn s i c).idle = s.idle ∧ (sendOn s i c).maxSize = s.maxSize :=
  ⟨(finishSend_frame ..).1, (finishSend_frame ..).2.1⟩

@[simp] theorem maintContinue_frame (s : St) (more : Nat) (d : List Nat) :
    (maintContinue s more d).idle = s.idle ∧ (maintContinue s more d).maxSize = s.maxSize := by
  cases more with
  | zero => simp only [maintContinue, foldl_updConn_eq, and_self]
  | succ n => exact ⟨rfl, rfl⟩

theorem recycleConn_shut (s : St) (c : Nat) (h : s.idle = none) : (recycleConn s c).idle = none :=
  recycleConn_cases (P := fun s' => s'.idle = none) s c h fun _ hl _ => by cases h.symm.trans hl

theorem shutdownLock_idle (s : St) : (shutdownLock s).idle = none := by
  unfold shutdownLock
  split
  · assumption
  · simp only [foldl_updConn_eq]

theorem shutdown_final (s s' : St) (e : Ev) (h : s.idle = none) (hs : step s e = some s') : s'.idle = none := by
  apply step_cases hs
  case shut | scanShut => intros; exact h
  case fresh | popOk | popFail | scan | pushFull | push => intros; cases h.symm.trans ‹s.idle = some _›
  case recycleTask | recycleSender => intros; exact recycleConn_shut _ _ h
  case pushShut => intros; simp only [foldl_updConn_eq]; exact h
  case shutdown => exact shutdownLock_idle s
  case wait => simp [waitEv, h]

theorem shutdown_final_run (es : List Ev) (s s' : St) (h : s.idle = none) (hr : run s es = some s') : s'.idle = none :=
  run_inv (fun s e s' h hs => shutdown_final s s' e h hs) es s s' h hr

def IdleBound (s : St) : Prop := ∀ l, s.idle = some l → l.length ≤ s.maxSize

namespace IdleBound
theorem of_le {s s' : St} (hb : IdleBound s) (hm : s'.maxSize = s.maxSize)
    (h : ∀ l', s'.idle = some l' → ∃ l, s.idle = some l ∧ l'.length ≤ l.length) : IdleBound s' := fun l' hl' => by
  obtain ⟨l, hl, hle⟩ := h l' hl'
  rw [hm]; exact Nat.le_trans hle (hb l hl)
end IdleBound

theorem bound_step (hfix : capFix = true) (s s' : St) (e : Ev) (hb : IdleBound s) (hs : step s e = some s') : IdleBound s' := by
  apply step_cases hs
  case shut | fresh | scanShut | pushFull =>
    intros; exact hb.of_le (by simp) fun l' hl' => ⟨l', by simpa using hl', Nat.le_refl _⟩
  case popOk | popFail =>
    intros
    refine hb.of_le (by simp) fun l' hl' => ⟨_, ‹s.idle = _›, ?_⟩
    simp at hl'; subst hl'; simp
  case recycleTask | recycleSender =>
    intros; exact recycleConn_cases (P := IdleBound) _ _ hb fun _ _ hlt _ hl' => by cases hl'; exact hlt
  case scan =>
    intro l _ hl
    refine hb.of_le (by simp) fun l' hl' => ⟨l, hl, ?_⟩
    simp at hl'; subst hl'; exact List.length_filter_le _ l
  case pushShut => intros; simp only [foldl_updConn_eq]; exact hb
  case push =>
    intro c more dropped l _ hl hlt l' hl'
    rw [(maintContinue_frame ..).1] at hl'
    cases hl'
    rw [(maintContinue_frame ..).2]
    exact hlt hfix
  case shutdown => intro l hl; simp [shutdownLock_idle] at hl
  case wait =>
    refine hb.of_le rfl fun l' hl' => ?_
    simp only [waitEv, Option.map_eq_some_iff] at hl'
    obtain ⟨l, hl, rfl⟩ := hl'
    exact ⟨l, hl, by simp⟩

theorem bound_init (a : Bool) (mx mn sd ns : Nat) (pl : List Plan) : IdleBound (init a mx mn sd ns pl) := by
  intro l hl; cases hl; exact Nat.zero_le _

/-! ## C09: shutdown closes what is parked -/

/-- a connection that is closed exists: the default `getConn` falls back on is open -/
theorem lt_of_closed {s : St} {c : Nat} (h : (getConn s c).closed = true) : c < s.conns.length := by
  refine Nat.lt_of_not_le fun hle => ?_
  rw [getConn, List.getD_eq_getElem?_getD, List.getElem?_eq_none hle] at h
  cases h

theorem closed_updConn (s : St) (c d : Nat) (f : Conn → Conn) (hf : ∀ k, k.closed = true → (f k).closed = true)
    (h : (getConn s c).closed = true) : (getConn (updConn s d f) c).closed = true := by
  by_cases hd : d = c
  · subst hd; rw [getConn_updConn_eq _ _ _ (lt_of_closed h)]; exact hf _ h
  · rw [getConn_updConn_ne _ _ _ _ hd]; exact h

theorem closed_foldl {α : Type} (g : α → Nat) (f : Conn → Conn) (hf : ∀ k, k.closed = true → (f k).closed = true)
    (l : List α) (s : St) (c : Nat) (h : (getConn s c).closed = true) :
    (getConn (l.foldl (fun s p => updConn s (g p) f) s) c).closed = true :=
  foldl_updConn_ind (Q := fun s' => (getConn s' c).closed = true) g f l s h fun s _ hs => closed_updConn s c _ f hf hs

theorem abortConn_keeps (k : Conn) : k.closed = true → (abortConn k).closed = true := fun _ => (abortConn_closed k).1

theorem shutdown_closes_parked (s : St) (l : List (Nat × Bool)) (h : s.idle = some l) (c : Nat) (x : Bool)
    (hm : (c, x) ∈ l) (hc : c < s.conns.length) : (getConn (shutdownLock s) c).closed = true := by
  unfold shutdownLock
  simp only [h]
  -- closed when its turn comes, and the rest of the pass does not reopen it
  obtain ⟨l1, l2, rfl⟩ := List.append_of_mem hm
  rw [List.foldl_append, List.foldl_cons]
  refine closed_foldl _ _ abortConn_keeps l2 _ c ?_
  rw [getConn_updConn_eq _ _ _ (by rw [foldl_updConn_length fun p : Nat × Bool => p.1]; exact hc)]
  exact (abortConn_closed _).1

theorem getConn_foldl_of_mem {α : Type} (g : α → Nat) (f : Conn → Conn) (l : List α) (s : St) (c : Nat) (hc : c < s.conns.length)
    (hn : (l.map g).Nodup) (hm : c ∈ l.map g) : getConn (l.foldl (fun s p => updConn s (g p) f) s) c = f (getConn s c) := by
  induction l generalizing s with
  | nil => simp at hm
  | cons p l ih =>
    simp only [List.map_cons, List.nodup_cons] at hn
    simp only [List.foldl]
    by_cases hp : g p = c
    · rw [getConn_foldl_of_not_mem _ _ l _ c (by rw [← hp]; exact hn.1), hp, getConn_updConn_eq _ _ _ hc]
    · rw [ih _ (by simpa using hc) hn.2 ((List.mem_cons.mp hm).resolve_left (Ne.symm hp)), getConn_updConn_ne _ _ _ _ hp]

/-! ## C08: a parked connection is used again only after it answered a probe -/

theorem failed_probe_closes (s : St) (i c : Nat) (rest : List (Nat × Bool)) (hc : c < s.conns.length)
    (hf : (probe (getConn s c)).2 = false) :
    (usePopped s i c rest).senders = s.senders ∧ (getConn (usePopped s i c rest) c).closed = true := by
  rw [usePopped_eq, if_neg (by simp [hf])]
  exact ⟨rfl, by rw [getConn_updConn_eq _ _ _ (by exact hc)]; exact (abortConn_closed _).1⟩

theorem dead_connection_not_reused (s : St) (i c : Nat) (rest : List (Nat × Bool)) (hc : c < s.conns.length)
    (hd : (getConn s c).peerAlive = false) :
    (usePopped s i c rest).senders = s.senders ∧ (getConn (usePopped s i c rest) c).closed = true ∧
      (usePopped s i c rest).idle = some rest := by
  have hf : (probe (getConn s c)).2 = false := by rw [probe_dead _ hd]
  obtain ⟨h1, h2⟩ := failed_probe_closes s i c rest hc hf
  exact ⟨h1, h2, by rw [usePopped_eq, if_neg (by simp [hf])]; rfl⟩

theorem live_connection_probed_first (s : St) (i c : Nat) (rest : List (Nat × Bool))
    (ha : (probe (getConn s c)).2 = true) :
    usePopped s i c rest = sendOn (updConn { s with idle := some rest } c fun _ => (probe (getConn s c)).1) i c ∧
      (probe (getConn s c)).1.hist = .noop :: (getConn s c).hist := by
  obtain ⟨es, p⟩ := probe_spec (getConn s c)
  refine ⟨?_, by rw [p.hist, p.ok ha]; rfl⟩
  have hg : getConn { s with idle := some rest } c = getConn s c := rfl
  unfold usePopped
  simp only [hg, ha, if_true]

/-! ## C07: committed messages = successful sends -/

def isCommit : SEv → Bool | .commit _ _ => true | _ => false
def commitsOn (k : Conn) : Nat := k.hist.countP isCommit
def totalCommits (s : St) : Nat := (s.conns.map commitsOn).sum
def okCount (t : Sender) : Nat := t.results.count .ok
def totalOk (s : St) : Nat := (s.senders.map okCount).sum

theorem commitsOn_say (k : Conn) (e : SEv) : commitsOn (say k e) = commitsOn k + (if isCommit e then 1 else 0) := by
  simp [commitsOn, say, List.countP_cons]

/-- The books are kept for a class `w` of messages (by sender and index), so that the count of all commits and the
    count for one message are the same theorem; `commitP w`: the commits of that class at the peer. -/
def commitP (w : Nat → Nat → Bool) : SEv → Bool
  | .commit i m => w i m
  | _ => false

def cnt (w : Nat → Nat → Bool) (k : Conn) : Nat := k.hist.countP (commitP w)
def total (w : Nat → Nat → Bool) (s : St) : Nat := (s.conns.map (cnt w)).sum

theorem commitsOn_eq : commitsOn = cnt fun _ _ => true := by
  have : isCommit = commitP fun _ _ => true := by funext e; cases e <;> rfl
  funext k; rw [commitsOn, this]; rfl

theorem cnt_of_hist (w : Nat → Nat → Bool) {k k' : Conn} {es : List SEv} (h : k'.hist = es ++ k.hist)
    (hes : ∀ e ∈ es, commitP w e = false) : cnt w k' = cnt w k := by
  have : es.countP (commitP w) = 0 := List.countP_eq_zero.mpr fun e he => by simp [hes e he]
  simp only [cnt, h, List.countP_append, this, Nat.zero_add]

theorem cnt_abortConn (w : Nat → Nat → Bool) (k : Conn) : cnt w (abortConn k) = cnt w k := by
  obtain ⟨tail, h, ht⟩ := abortConn_hist k
  exact cnt_of_hist w h fun e he => by rcases ht e he with rfl | rfl <;> rfl

theorem cnt_dropConn (w : Nat → Nat → Bool) (k : Conn) : cnt w (dropConn k) = cnt w k := by
  obtain ⟨tail, h, ht⟩ := dropConn_hist k
  exact cnt_of_hist w h fun e he => by rw [ht e he]; rfl

theorem cnt_probe (w : Nat → Nat → Bool) (k : Conn) : cnt w (probe k).1 = cnt w k := by
  obtain ⟨es, p⟩ := probe_spec k
  exact cnt_of_hist w p.hist fun e he => by rcases p.evs e he with rfl | rfl <;> rfl

theorem cnt_transact (w : Nat → Nat → Bool) (k : Conn) (i m : Nat) :
    cnt w (transact k i m).1 = cnt w k + if (transact k i m).2 = .ok ∧ w i m = true then 1 else 0 := by
  rcases transact_spec k i m with ⟨k', body, f⟩ | ⟨tail, c⟩
  · rw [f.conn, cnt_abortConn, if_neg (fun h => f.res h.1), cnt, f.hist, List.countP_append]
    rcases f.body with rfl | rfl | rfl | rfl <;> exact Nat.zero_add _
  · have : tail.countP (commitP w) = 0 := by rcases c.tail with rfl | rfl <;> rfl
    simp only [cnt, c.hist, c.res, List.countP_append, this, List.countP_cons, commitP, List.countP_nil, true_and]
    by_cases hw : w i m <;> simp [hw, Nat.add_comm]

theorem commitsOn_transact (k : Conn) (i m : Nat) :
    commitsOn (transact k i m).1 = commitsOn k + (if (transact k i m).2 = .ok then 1 else 0) := by
  simpa [commitsOn_eq] using cnt_transact (fun _ _ => true) k i m

theorem sum_map_modify_add {α : Type} (g : α → Nat) (f : α → α) (l : List α) (c : Nat) (x : α) (h : l[c]? = some x) (a : Nat)
    (hg : g (f x) = g x + a) : ((l.modify c f).map g).sum = (l.map g).sum + a :=
  Nat.add_right_cancel (m := g x) ((sum_map_modify g f l c x h).trans (by rw [hg, Nat.add_comm (g x) a, Nat.add_assoc]))

theorem sum_map_modify_same {α : Type} (g : α → Nat) (f : α → α) (l : List α) (c : Nat)
    (h : ∀ x, g (f x) = g x) : ((l.modify c f).map g).sum = (l.map g).sum := by
  cases hc : l[c]? with
  | none => rw [List.modify_eq_self (by simpa using hc)]
  | some x => exact sum_map_modify_add g f l c x hc 0 (h x)

/-- what the tally needs of `cred`, a way of counting the successes of class `w` in the senders' records -/
structure Credits (w : Nat → Nat → Bool) (cred : List Sender → Nat) : Prop where
  push : ∀ (l : List Sender) (i : Nat) (t : Sender) (f : Sender → Sender) (r : Res), l[i]? = some t →
    (f t).results = r :: t.results → cred (l.modify i f) = cred l + if r = .ok ∧ w i t.results.length = true then 1 else 0
  same : ∀ (l : List Sender) (i : Nat) (f : Sender → Sender), (∀ t, (f t).results = t.results) → cred (l.modify i f) = cred l
  init : ∀ n, cred (List.replicate n {}) = 0

theorem credits_ok : Credits (fun _ _ => true) fun l => (l.map okCount).sum where
  push l i t f r ht hf := by
    simp only [and_true]
    refine sum_map_modify_add okCount f l i t ht _ ?_
    rw [okCount, okCount, hf, List.count_cons]
    cases r <;> rfl
  same l i f hf := sum_map_modify_same okCount f l i fun t => by rw [okCount, okCount, hf t]
  init n := by simp [okCount]

/-- the results of a sender are those of its messages `0 .. next-1`, plus the one of the send whose connection it still
    holds (blocking pool) -/
def Indexed (s : St) : Prop := ∀ (i : Nat) (t : Sender), s.senders[i]? = some t → t.results.length = t.next + (if t.holding.isSome then 1 else 0)

namespace Indexed
theorem modify {s s' : St} (hl : Indexed s) {i : Nat} {t : Sender} {f : Sender → Sender} (hs : s'.senders = s.senders.modify i f)
    (ht : s.senders[i]? = some t) (hf : (f t).results.length = (f t).next + (if (f t).holding.isSome then 1 else 0)) : Indexed s' := by
  intro j tj hj
  rw [hs, List.getElem?_modify] at hj
  by_cases hij : i = j
  · subst hij; simp [ht] at hj; subst hj; exact hf
  · simp [hij] at hj; exact hl j tj hj
end Indexed

def Books (w : Nat → Nat → Bool) (cred : List Sender → Nat) (s : St) : Prop := Indexed s ∧ total w s = cred s.senders

section Books
variable {w : Nat → Nat → Bool} {cred : List Sender → Nat} {s : St}

theorem Books.indexed (h : Books w cred s) : Indexed s := h.1
theorem Books.tally (h : Books w cred s) : total w s = cred s.senders := h.2

/-! `Books w cred s` looks at `s.conns` and `s.senders` only: for a state that differs from `s` elsewhere, `exact h` does. -/

theorem books_updConn (h : Books w cred s) (c : Nat) {f : Conn → Conn} (hf : ∀ k, cnt w (f k) = cnt w k) :
    Books w cred (updConn s c f) :=
  ⟨h.indexed, (sum_map_modify_same (cnt w) f s.conns c hf).trans h.tally⟩

theorem books_foldl {α : Type} (h : Books w cred s) (g : α → Nat) {f : Conn → Conn} (hf : ∀ k, cnt w (f k) = cnt w k)
    (l : List α) : Books w cred (l.foldl (fun s p => updConn s (g p) f) s) :=
  foldl_updConn_ind g f l s h fun _ a hs => books_updConn hs (g a) hf

theorem books_openConn (h : Books w cred s) : Books w cred (openConn s).1 := by
  obtain ⟨k, hk, -, -, hh⟩ := openConn_conns s
  have : cnt w k = 0 := List.countP_eq_zero.mpr fun e he => by rcases hh e he with rfl | rfl <;> simp [commitP]
  refine ⟨h.indexed, ?_⟩
  rw [total, hk, List.map_append, List.sum_append_nat]
  simp only [List.map_cons, List.map_nil, List.sum_cons, List.sum_nil, this, Nat.add_zero]
  exact h.tally

theorem books_recycleConn (h : Books w cred s) (c : Nat) : Books w cred (recycleConn s c) :=
  recycleConn_cases s c (books_updConn h c (cnt_abortConn w)) fun _ _ _ => h

theorem books_maintContinue (h : Books w cred s) (more : Nat) (d : List Nat) : Books w cred (maintContinue s more d) := by
  cases more with
  | zero => exact books_foldl h (fun c => c) (cnt_abortConn w) d
  | succ n => exact books_openConn h

theorem finishSend_senders (s : St) (i c : Nat) (r : Res) :
    ∃ f : Sender → Sender, (finishSend s i c r).senders = s.senders.modify i f ∧ ∀ t, (f t).results = r :: t.results ∧
      (t.holding = none → (f t).next + (if (f t).holding.isSome then 1 else 0) = t.next + 1) := by
  rcases finishSend_eq s i c r with ⟨-, h⟩ | ⟨-, -, h⟩ | ⟨-, -, h⟩ <;> rw [h] <;>
    exact ⟨_, rfl, fun t => ⟨rfl, fun hh => by cases t; cases hh; rfl⟩⟩

theorem books_sendOn (hc : Credits w cred) (h : Books w cred s) {i c : Nat} {t : Sender} (ht : s.senders[i]? = some t)
    (hcl : c < s.conns.length) (hh : t.holding = none) : Books w cred (sendOn s i c) := by
  have hlen : t.results.length = t.next := by have := h.indexed i t ht; rwa [hh] at this
  have hm : (s.senders.getD i {}).next = t.results.length := by simp [ht, hlen]
  rw [sendOn_eq, hm]
  obtain ⟨f, (hs : _ = s.senders.modify i f), hf⟩ :=
    finishSend_senders (updConn s c fun k => (transact k i t.results.length).1) i c (transact (getConn s c) i t.results.length).2
  refine ⟨h.indexed.modify hs ht ?_, ?_⟩
  · rw [(hf t).1, List.length_cons, (hf t).2 hh, hlen]
  · have hk : s.conns[c]? = some (getConn s c) := by simp [getConn, hcl]
    rw [total, (finishSend_frame _ _ _ _).2.2, hs, hc.push s.senders i t f _ ht (hf t).1, ← h.tally]
    exact sum_map_modify_add (cnt w) _ s.conns c _ hk _ (cnt_transact w _ i _)

theorem books_updSender (h : Books w cred s) {i : Nat} {t : Sender} (f : Sender → Sender) (ht : s.senders[i]? = some t)
    (hf : (f t).results.length = (f t).next + (if (f t).holding.isSome then 1 else 0))
    (hcred : cred (s.senders.modify i f) = cred s.senders) : Books w cred (updSender s i f) :=
  ⟨h.indexed.modify rfl ht hf, h.tally.trans hcred.symm⟩

theorem books_step (hc : Credits w cred) {s' : St} {e : Ev} (hv : Valid s) (h : Books w cred s) (hs : step s e = some s') :
    Books w cred s' := by
  apply step_cases hs
  case shut =>
    intro i t ht hh _
    refine books_updSender h _ ht ?_ ((hc.push s.senders i t _ .shutdown ht rfl).trans (by simp))
    have := h.indexed i t ht
    rw [hh] at this ⊢
    exact congrArg (· + 1) this
  case fresh =>
    intro i t ht hh _
    exact books_sendOn hc (books_openConn h) ht (by rw [openConn_conns_length]; exact Nat.lt_succ_self _) hh
  case popOk =>
    intro i t c x rest ht hh hidle _
    refine books_sendOn hc (books_updConn ?_ c (cnt_probe w)) ht ?_ hh
    · exact h
    · rw [updConn_conns_length]; exact hv.idle _ hidle (c, x) List.mem_cons_self
  case popFail => intros; refine books_updConn ?_ _ (fun k => by rw [cnt_abortConn, cnt_probe]); exact h
  case recycleTask => intros; apply books_recycleConn; exact h
  case recycleSender =>
    intro i t c ht hc'
    refine books_recycleConn (books_updSender h (fun t => { t with holding := none, next := t.next + 1 }) ht ?_
      (hc.same s.senders i _ fun _ => rfl)) c
    have := h.indexed i t ht
    rwa [hc'] at this
  case scanShut | wait => intros; exact h
  case scan | push => intros; apply books_maintContinue; exact h
  case pushShut => intros; exact books_foldl h (fun c => c) (cnt_dropConn w) _
  case pushFull => intros; exact books_maintContinue (books_updConn h _ (cnt_abortConn w)) _ _
  case shutdown =>
    unfold shutdownLock
    split
    · exact h
    · refine books_foldl ?_ (fun p : Nat × Bool => p.1) (cnt_abortConn w) _
      exact h

theorem books_init (hc : Credits w cred) (a : Bool) (mx mn sd ns : Nat) (pl : List Plan) : Books w cred (init a mx mn sd ns pl) := by
  refine ⟨fun i t ht => ?_, (hc.init ns).symm⟩
  rw [List.eq_of_mem_replicate (List.mem_of_getElem? ht)]; rfl

end Books

/-! ## C07: a connection is in one place at a time

The places are counted; what a transition does to a reference is an equation between counts, one for each kind of move.
The invariant itself needs `healthy`: `PoolHealthy.lean`. -/

def ind (b : Bool) : Nat := if b then 1 else 0

def idleOcc (s : St) (c : Nat) : Nat := ((s.idle.getD []).map fun p => ind (p.1 == c)).sum
def holdOcc (s : St) (c : Nat) : Nat := (s.senders.map fun t => ind (t.holding == some c)).sum
def recOcc (s : St) (c : Nat) : Nat := (s.recyclers.map fun r => ind (r == some c)).sum
def listOcc (d : List Nat) (c : Nat) : Nat := (d.map fun x => ind (x == c)).sum
def maintOcc (s : St) (c : Nat) : Nat :=
  match s.maint with
  | .push c' _ d => ind (c' == c) + listOcc d c
  | _ => 0

/-- in how many places connection `c` is: parked, held by a sender, waiting in a recycle task, held by the maintenance
    worker -/
def occ (s : St) (c : Nat) : Nat := idleOcc s c + holdOcc s c + recOcc s c + maintOcc s c

def Excl (s : St) : Prop := ∀ c, occ s c ≤ 1

@[simp] theorem ind_true : ind true = 1 := rfl
@[simp] theorem ind_false : ind false = 0 := rfl
theorem ind_le_one (b : Bool) : ind b ≤ 1 := by cases b <;> simp [ind]
theorem ind_eq_of (a b : Nat) (h : a = b) : ind (a == b) = 1 := by simp [h]
theorem ind_ne_of (a b : Nat) (h : a ≠ b) : ind (a == b) = 0 := by simp [ind, h]

theorem sum_ind_pos {α : Type} (l : List α) (p : α → Bool) (x : α) (hx : x ∈ l) (hp : p x = true) :
    1 ≤ (l.map fun x => ind (p x)).sum :=
  List.sum_pos_iff_exists_pos_nat.mpr ⟨ind (p x), List.mem_map_of_mem hx, by rw [hp]; exact Nat.one_pos⟩

theorem listOcc_cons (c : Nat) (l : List Nat) (d : Nat) : listOcc (c :: l) d = ind (c == d) + listOcc l d := rfl

theorem le_occ (s : St) (d : Nat) :
    idleOcc s d ≤ occ s d ∧ holdOcc s d ≤ occ s d ∧ recOcc s d ≤ occ s d ∧ maintOcc s d ≤ occ s d := by
  rw [occ]; omega

theorem occ_pos_of_parked (s : St) (l : List (Nat × Bool)) (h : s.idle = some l) (c : Nat) (x : Bool) (hm : (c, x) ∈ l) :
    1 ≤ occ s c := by
  refine Nat.le_trans ?_ (le_occ s c).1
  rw [idleOcc, h]
  exact sum_ind_pos l (fun p => p.1 == c) (c, x) hm (beq_self_eq_true c)

theorem occ_pos_of_held (s : St) (t : Sender) (ht : t ∈ s.senders) (c : Nat) (hc : t.holding = some c) : 1 ≤ occ s c :=
  Nat.le_trans (sum_ind_pos s.senders (fun t => t.holding == some c) t ht (beq_iff_eq.mpr hc)) (le_occ s c).2.1

theorem occ_pos_of_recycling (s : St) (c : Nat) (h : some c ∈ s.recyclers) : 1 ≤ occ s c :=
  Nat.le_trans (sum_ind_pos s.recyclers (· == some c) (some c) h (beq_self_eq_true _)) (le_occ s c).2.2.1

theorem occ_pos_of_worker (s : St) (c m : Nat) (d : List Nat) (h : s.maint = .push c m d) (x : Nat) (hx : x = c ∨ x ∈ d) :
    1 ≤ occ s x := by
  refine Nat.le_trans ?_ (le_occ s x).2.2.2
  rw [maintOcc, h]
  rcases hx with rfl | hx
  · exact Nat.le_trans (Nat.le_of_eq (ind_eq_of x x rfl).symm) (Nat.le_add_right _ _)
  · exact Nat.le_trans (sum_ind_pos d (· == x) x hx (beq_self_eq_true x)) (Nat.le_add_left _ _)

theorem occ_updConn (s : St) (c : Nat) (f : Conn → Conn) (d : Nat) : occ (updConn s c f) d = occ s d := rfl

theorem occ_openConn (s : St) (d : Nat) : occ (openConn s).1 d = occ s d := rfl

theorem maintOcc_of_not_push (s : St) (h : ∀ c m l, s.maint ≠ .push c m l) (d : Nat) : maintOcc s d = 0 := by
  unfold maintOcc
  split
  · exact absurd ‹_› (h _ _ _)
  · rfl

theorem occ_updSender (s : St) (i : Nat) (t : Sender) (f : Sender → Sender) (ht : s.senders[i]? = some t) (d : Nat) :
    occ (updSender s i f) d + ind (t.holding == some d) = occ s d + ind ((f t).holding == some d) := by
  have := sum_map_modify (fun t : Sender => ind (t.holding == some d)) f s.senders i t ht
  simp only [occ, idleOcc, holdOcc, recOcc, maintOcc, updSender] at this ⊢; omega

/-- a sender whose `holding` stays as it is -/
theorem occ_updSender_same (s : St) (i : Nat) (t : Sender) (f : Sender → Sender) (ht : s.senders[i]? = some t)
    (hf : (f t).holding = t.holding) (d : Nat) : occ (updSender s i f) d = occ s d := by
  have := occ_updSender s i t f ht d
  rw [hf] at this
  exact Nat.add_right_cancel this

theorem occ_spawn (s : St) (x : Option Nat) (d : Nat) :
    occ { s with recyclers := s.recyclers ++ [x] } d = occ s d + ind (x == some d) := by
  simp only [occ, idleOcc, holdOcc, recOcc, maintOcc, List.map_append, List.sum_append_nat, List.map_cons, List.map_nil,
    List.sum_cons, List.sum_nil]
  omega

theorem occ_finishSend (s : St) (i c : Nat) (r : Res) (t : Sender) (ht : s.senders[i]? = some t) (hh : t.holding = none)
    (d : Nat) : occ (finishSend s i c r) d = occ s d + if (getConn s c).broken = true then 0 else ind (c == d) := by
  -- `rs`: the tokio pool has spawned a recycle task by then, with the connection or without
  have next : ∀ rs, occ (updSender { s with recyclers := rs } i fun t => { t with next := t.next + 1, results := r :: t.results }) d =
      occ { s with recyclers := rs } d :=
    fun rs => occ_updSender_same { s with recyclers := rs } i t _ ht rfl d
  rcases finishSend_eq s i c r with ⟨-, h⟩ | ⟨-, hb, h⟩ | ⟨-, hb, h⟩ <;> rw [h]
  · rw [next, occ_spawn]
    cases (getConn s c).broken <;> rfl
  · rw [hb]; exact next s.recyclers
  · have := occ_updSender s i t (fun t => { t with holding := some c, results := r :: t.results }) ht d
    rw [hh] at this
    rw [hb]
    exact this

/-- references leave the idle list -/
theorem occ_take_idle {s : St} {x : Option (List (Nat × Bool))} {d a : Nat} (h : idleOcc { s with idle := x } d + a = idleOcc s d) :
    occ { s with idle := x } d + a = occ s d := by
  show idleOcc { s with idle := x } d + holdOcc s d + recOcc s d + maintOcc s d + a = occ s d
  rw [occ, ← h]
  simp only [Nat.add_right_comm _ _ a]

theorem occ_pop (s : St) (c : Nat) (x : Bool) (rest : List (Nat × Bool)) (h : s.idle = some ((c, x) :: rest)) (d : Nat) :
    occ { s with idle := some rest } d + ind (c == d) = occ s d :=
  occ_take_idle (by rw [idleOcc, idleOcc, h]; exact Nat.add_comm _ _)

theorem occ_park (s : St) (c : Nat) (l : List (Nat × Bool)) (h : s.idle = some l) (d : Nat) :
    occ { s with idle := some ((c, false) :: l) } d = occ s d + ind (c == d) := by
  simp only [occ, idleOcc, holdOcc, recOcc, maintOcc, h, Option.getD_some, List.map_cons, List.sum_cons]; omega

theorem occ_takeRecycler (s : St) (w c : Nat) (h : s.recyclers[w]? = some (some c)) (d : Nat) :
    occ { s with recyclers := s.recyclers.set w none } d + ind (c == d) = occ s d := by
  have := sum_map_modify (fun r : Option Nat => ind (r == some d)) (fun _ => none) s.recyclers w (some c) h
  rw [List.modify_eq_set] at this
  simp only [occ, idleOcc, holdOcc, recOcc, maintOcc, Option.some_beq_some, Option.none_beq_some, ind_false] at this ⊢
  omega

theorem occ_takeHolder (s : St) (w c : Nat) (t : Sender) (f : Sender → Sender) (h : s.senders[w]? = some t)
    (hc : t.holding = some c) (hf : (f t).holding = none) (d : Nat) : occ (updSender s w f) d + ind (c == d) = occ s d := by
  simpa [hc, hf] using occ_updSender s w t f h d

theorem occ_scan (s : St) (l : List (Nat × Bool)) (h : s.idle = some l) (d : Nat) :
    occ { s with idle := some (l.filter (!·.2)) } d + listOcc ((l.filter (·.2)).map (·.1)) d = occ s d := by
  -- the expired and the kept are a partition of the list
  have := ((List.filter_append_perm (·.2) l).map fun p => ind (p.1 == d)).sum_nat
  rw [List.map_append, List.sum_append_nat, Nat.add_comm] at this
  refine occ_take_idle ?_
  rw [idleOcc, idleOcc, h, listOcc, List.map_map]
  exact this

theorem occ_setMaint (s : St) (m : MPc) (d : Nat) :
    occ { s with maint := m } d + maintOcc s d = occ s d + maintOcc { s with maint := m } d := by
  simp only [occ, idleOcc, holdOcc, recOcc]; omega

/-- a sleeping worker is woken up: it held nothing and holds nothing -/
theorem occ_wake (s : St) (m : MPc) (hm : ∀ c n l, m ≠ .push c n l) (d : Nat) :
    occ { s with maint := if s.maint == .asleep then m else s.maint } d = occ s d := by
  by_cases ha : s.maint = .asleep
  · have := occ_setMaint s m d
    rw [maintOcc_of_not_push s (fun c n l h => by rw [ha] at h; cases h), maintOcc_of_not_push { s with maint := m } hm] at this
    rw [ha]
    exact this
  · rw [if_neg (by simpa using ha)]

theorem occ_takeParked (s : St) (l : List (Nat × Bool)) (h : s.idle = some l) (d : Nat) :
    occ { s with idle := none } d + listOcc (l.map (·.1)) d = occ s d :=
  occ_take_idle (by rw [idleOcc, idleOcc, h, listOcc, List.map_map]; exact Nat.zero_add _)

theorem occ_waitEv (s : St) (d : Nat) : occ (waitEv s) d = occ s d := by
  refine (occ_wake { s with idle := s.idle.map (·.map fun p => (p.1, true)) } .scan nofun d).trans ?_
  -- the same connections are parked, expired or not
  have : idleOcc { s with idle := s.idle.map (·.map fun p => (p.1, true)) } d = idleOcc s d := by
    rw [idleOcc, idleOcc]
    cases s.idle with
    | none => rfl
    | some l => simp only [Option.map_some, Option.getD_some, List.map_map, Function.comp_def]
  rw [occ, occ, this]; rfl

end LV.PoolLts
