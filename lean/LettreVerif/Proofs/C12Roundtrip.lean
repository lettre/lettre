import LettreVerif.Proofs.Rfc2047Dec
import LettreVerif.Proofs.Rfc2047Enc
/-!
# C12: the reader gives back the value (assembly of the encoder side and the reader side)

`Rfc2047Dec` reads a chain of encoded-words and literal texts from the left (`decode_segments`); `Rfc2047Enc` says what each
step of the encoder appends to the unfolded text. Here the chain grows at the right end, as the encoder writes it:
`Sem strict w c` (the reader shows `c` for what `w` has written) is kept by literal text (`sem_lit`) and by a run of
encoded-words (`sem_run`), hence by `sem_flush` and `sem_hv`.
-/
namespace LV.C12Proof
open LV LV.HeaderEnc LV.Rfc2047Dec

theorem ew_eq (d : Bytes) : ew d = encw d := rfl

/-! ## literal text that a reader never takes for an encoded-word -/

/-- `Rfc2047Dec.EncFree` over `wsTokens`, the pieces the model's `=?…?=` guard looks at, where that one is over the
    reader's `tokens`; it implies that one (`encFree_of`) -/
def EncFree' (l : Bytes) : Prop := ∀ u ∈ wsTokens [] l, encWord? u = none

theorem wsTokens_ws {b : Byte} (hb : isWs b = true) (cur bs : Bytes) :
    wsTokens cur (b :: bs) = cur.reverse :: wsTokens [] bs := by
  rw [wsTokens, show (b == 32 || b == 9) = true from hb]
  rfl

theorem wsTokens_nws {b : Byte} (hb : isWs b = false) (cur bs : Bytes) :
    wsTokens cur (b :: bs) = wsTokens (b :: cur) bs := by
  rw [wsTokens, show (b == 32 || b == 9) = false from hb]
  rfl

theorem wsTokens_all (P : Byte → Prop) (s cur : Bytes) (hc : ∀ b ∈ cur, P b) (hs : ∀ b ∈ s, P b) :
    ∀ u ∈ wsTokens cur s, ∀ b ∈ u, P b := by
  induction s generalizing cur with
  | nil =>
    intro u hu b hb
    rw [wsTokens, List.mem_singleton] at hu
    exact hc b (List.mem_reverse.mp (hu ▸ hb))
  | cons x xs ih =>
    obtain ⟨hx, hxs⟩ := List.forall_mem_cons.mp hs
    cases hw : isWs x with
    | true =>
      rw [wsTokens_ws hw]
      exact List.forall_mem_cons.mpr ⟨fun b hb => hc b (List.mem_reverse.mp hb), ih [] (List.forall_mem_nil _) hxs⟩
    | false =>
      rw [wsTokens_nws hw]
      exact ih (x :: cur) (List.forall_mem_cons.mpr ⟨hx, hc⟩) hxs

theorem words_sub (w l acc : Bytes) (c : Bool) (hc : c = true → acc ≠ []) (h : Tok.word w ∈ tokens l acc c) :
    w ∈ wsTokens (if c then [] else acc) l := by
  induction l generalizing acc c with
  | nil =>
    cases acc with
    | nil => nomatch h
    | cons a acc =>
      rw [tokens_end _ _ (List.cons_ne_nil _ _)] at h
      cases c with
      | true => exact nomatch (List.mem_singleton.mp h)
      | false => exact List.mem_singleton.mpr (Tok.word.inj (List.mem_singleton.mp h))
  | cons b r ih =>
    cases hb : isWs b with
    | true =>
      rw [wsTokens_ws hb]
      cases c with
      | true =>
        rw [tokens_same b r acc true (.inr hb), hb] at h
        exact List.mem_cons_of_mem _ (ih (b :: acc) true (fun _ => List.cons_ne_nil _ _) h)
      | false =>
        by_cases hacc : acc = []
        · rw [tokens_same b r acc false (.inl hacc), hb] at h
          exact List.mem_cons_of_mem _ (ih (b :: acc) true (fun _ => List.cons_ne_nil _ _) h)
        · rw [tokens_diff b r acc false hacc hb, hb] at h
          rcases List.mem_cons.mp h with e | h
          · exact List.mem_cons.mpr (.inl (Tok.word.inj e))
          · exact List.mem_cons_of_mem _ (ih [b] true (fun _ => List.cons_ne_nil _ _) h)
    | false =>
      rw [wsTokens_nws hb]
      cases c with
      | true =>
        rw [tokens_diff b r acc true (hc rfl) hb, hb] at h
        exact ih [b] false nofun ((List.mem_cons.mp h).resolve_left nofun)
      | false =>
        rw [tokens_same b r acc false (.inr hb), hb] at h
        exact ih (b :: acc) false nofun h

theorem encFree_of (l : Bytes) (h : EncFree' l) : EncFree l :=
  fun w hw => h w (words_sub w l [] false nofun hw)

theorem wsTokens_append_ws {x : Byte} (hx : isWs x = true) (b p cur : Bytes) :
    wsTokens cur (p ++ x :: b) = wsTokens cur p ++ wsTokens [] b := by
  induction p generalizing cur with
  | nil => exact wsTokens_ws hx cur b
  | cons c p ih =>
    cases hc : isWs c with
    | true => rw [List.cons_append, wsTokens_ws hc, wsTokens_ws hc, ih]; rfl
    | false => rw [List.cons_append, wsTokens_nws hc, wsTokens_nws hc, ih]

theorem encFree'_append (a b : Bytes) (ha : EncFree' a) (hb : EncFree' b) (h : a = [] ∨ endsWs a) : EncFree' (a ++ b) := by
  rcases h with rfl | ⟨p, x, rfl, hx⟩
  · exact hb
  · intro u hu
    rw [List.append_assoc, List.singleton_append, wsTokens_append_ws hx] at hu
    rcases List.mem_append.mp hu with hu | hu
    · exact ha u (by rw [wsTokens_append_ws hx]; exact List.mem_append_left _ hu)
    · exact hb u hu

theorem encFree'_nil : EncFree' [] := fun u hu => by rw [List.mem_singleton.mp hu]; rfl

theorem encFree'_spaces (n : Nat) : EncFree' (List.replicate n 32) := by
  induction n with
  | zero => exact encFree'_nil
  | succ n ih =>
    intro u hu
    rw [List.replicate_succ, wsTokens_ws (by decide)] at hu
    rcases List.mem_cons.mp hu with rfl | hu
    · rfl
    · exact ih u hu

theorem lower_eq (b : Byte) (c : Byte) (hc : ¬ (97 ≤ c.toNat ∧ c.toNat ≤ 122)) (h : lower b = c) : b = c := by
  rw [lower] at h
  split at h
  · rename_i hb
    refine absurd ?_ hc
    rw [← h, UInt8.toNat_add, Nat.mod_eq_of_lt (Nat.lt_of_le_of_lt (Nat.add_le_add_right hb.2 _) (by decide))]
    exact ⟨Nat.add_le_add_right hb.1 32, Nat.add_le_add_right hb.2 32⟩
  · exact h

theorem not_marker_not_enc (t : Bytes)
    (h : (t.length ≥ 4 && [61, 63].isPrefixOf t && t.drop (t.length - 2) == [63, 61]) = false) : encWord? t = none := by
  rw [encWord?, if_neg]
  intro hc
  simp only [Bool.and_eq_true, decide_eq_true_eq, beq_iff_eq] at hc
  obtain ⟨⟨⟨_, h12⟩, hp⟩, hsuf⟩ := hc
  cases t with
  | nil => cases hp
  | cons a t =>
    cases t with
    | nil => exact nomatch (List.cons.inj hp).2
    | cons b rest =>
      -- `=` and `?` are not letters, so they are there as they are
      have hp' := List.cons.inj hp
      obtain rfl := lower_eq a 61 (by decide) hp'.1
      obtain rfl := lower_eq b 63 (by decide) (List.cons.inj hp'.2).1
      rw [hsuf, decide_eq_true (show (61 :: 63 :: rest).length ≥ 4 from Nat.le_trans (by decide) h12)] at h
      cases h

theorem encFree'_word (w : Bytes) (h : hasEncMarker w = false) : EncFree' w :=
  fun u hu => not_marker_not_enc u (Bool.eq_false_iff.mpr (List.any_eq_false.mp h u hu))

/-! ## chains, built from the left -/

/-- a pair that can take a successor: what `WFC` asks of it, the literal text standing between two encoded-words -/
def MidOK (p : Bytes × Bytes) : Prop :=
  p.1 ≠ [] ∧ p.1.length ≤ 45 ∧ EncFree' p.2 ∧ startsWs p.2 ∧ endsWs p.2

/-- what the reader shows for pairs that all have a successor -/
def semM : List (Bytes × Bytes) → Bytes
  | [] => []
  | (d, l) :: rest => d ++ (if allWs l = true then [] else l) ++ semM rest

theorem renderC_append (a b : List (Bytes × Bytes)) : renderC (a ++ b) = renderC a ++ renderC b := by
  induction a with
  | nil => rfl
  | cons p a ih => rw [List.cons_append, renderC, renderC, ih]; simp only [List.append_assoc]

theorem semM_append (a b : List (Bytes × Bytes)) : semM (a ++ b) = semM a ++ semM b := by
  induction a with
  | nil => rfl
  | cons p a ih => rw [List.cons_append, semM, semM, ih]; simp only [List.append_assoc]

theorem semC_snoc (mid : List (Bytes × Bytes)) (d l : Bytes) : semC (mid ++ [(d, l)]) = semM mid ++ d ++ l := by
  induction mid with
  | nil => simp [semC, semM]
  | cons p a ih =>
    rw [List.cons_append, semC, ih, semM, List.append_assoc, List.append_assoc]
    simp

theorem wfc_snoc (mid : List (Bytes × Bytes)) (d l : Bytes) (hm : ∀ q ∈ mid, MidOK q)
    (hd : d ≠ []) (hd45 : d.length ≤ 45) (hl : EncFree' l) (hs : l = [] ∨ startsWs l) : WFC (mid ++ [(d, l)]) := by
  induction mid with
  | nil => exact ⟨hd, hd45, encFree_of l hl, hs, fun h => absurd rfl h, trivial⟩
  | cons p a ih =>
    obtain ⟨⟨h1, h2, h3, h4, h5⟩, ha⟩ := List.forall_mem_cons.mp hm
    exact ⟨h1, h2, encFree_of _ h3, .inr h4, fun _ => h5, ih ha⟩

theorem decode_snoc (l0 : Bytes) (mid : List (Bytes × Bytes)) (d l : Bytes) (h0 : EncFree' l0) (hb : l0 = [] ∨ endsWs l0)
    (hm : ∀ q ∈ mid, MidOK q) (hd : d ≠ []) (hd45 : d.length ≤ 45) (hl : EncFree' l) (hs : l = [] ∨ startsWs l) :
    decToks (tokens (l0 ++ renderC mid ++ encw d ++ l) [] false) false = l0 ++ semM mid ++ d ++ l := by
  have := decode_segments l0 (mid ++ [(d, l)]) (encFree_of _ h0) (hb.imp id .inr) (wfc_snoc mid d l hm hd hd45 hl hs)
  rw [renderC_append, semC_snoc, renderC, renderC, List.append_nil] at this
  simpa only [List.append_assoc] using this

theorem run1_split : ∀ (ds : List Bytes), ds ≠ [] → (∀ d ∈ ds, d ≠ [] ∧ d.length ≤ 45) →
    ∃ mid dl, run1 ds = renderC mid ++ encw dl ∧ (∀ q ∈ mid, MidOK q) ∧ dl ≠ [] ∧ dl.length ≤ 45 ∧
      semM mid ++ dl = ds.flatten := by
  intro ds hne hg
  induction ds with
  | nil => exact absurd rfl hne
  | cons d ds ih =>
    obtain ⟨hd, hg⟩ := List.forall_mem_cons.mp hg
    cases ds with
    | nil => exact ⟨[], d, List.append_nil _, nofun, hd.1, hd.2, (List.append_nil _).symm⟩
    | cons d' ds =>
      obtain ⟨mid, dl, hr, hm, h1, h2, hs⟩ := ih (List.cons_ne_nil _ _) hg
      have hsp : MidOK (d, [32]) := ⟨hd.1, hd.2, encFree'_spaces 1, ⟨32, [], rfl, rfl⟩, [], 32, rfl, rfl⟩
      refine ⟨(d, [32]) :: mid, dl, ?_, List.forall_mem_cons.mpr ⟨hsp, hm⟩, h1, h2, ?_⟩
      · rw [run1, runR_cons_eq, hr, renderC]
        simp only [List.append_assoc, List.cons_append, List.nil_append]
        rfl
      · rw [semM, if_pos (show allWs [32] = true from rfl), List.append_nil, List.append_assoc, hs]
        rfl

theorem decode_run1 (ds : List Bytes) (hne : ds ≠ []) (hgood : ∀ d ∈ ds, d ≠ [] ∧ d.length ≤ 45) :
    decToks (tokens (run1 ds) [] false) false = ds.flatten := by
  obtain ⟨mid, dl, hr, hm, h1, h2, hs⟩ := run1_split ds hne hgood
  have := decode_snoc [] mid dl [] encFree'_nil (.inl rfl) hm h1 h2 encFree'_nil (.inl rfl)
  rwa [List.nil_append, List.nil_append, List.append_nil, List.append_nil, ← hr, hs] at this

/-! ## the invariant: what a reader makes of what has been written so far -/

/-- empty or ending with a space: where `split_inclusive(' ')` cuts, so what `format` has seen before a word is such -/
def E32 (x : Bytes) : Prop := x = [] ∨ ∃ r, x = r ++ [32]
/-- not ending with a space: true of what goes into a run of encoded-words, which `flush_encode_buf` has trimmed -/
def NoEnd32 (d : Bytes) : Prop := ∀ r, d ≠ r ++ [32]

/-- `c` is what the reader shows for the writer's content (pending spaces included): no encoded-word has been written,
    or the content is literal text `l0`, pairs that have a successor, a last encoded-word `d` and the literal text `l`
    after it. `strict`: `l` is not blank — the reader drops blank text between two encoded-words, so only then can `(d, l)`
    take a successor (`sem_closed`). The encoder sees to it: a blank word met while words are buffered joins the buffer
    (`joins` in `hvWords`) and is not written literally. -/
def Sem (strict : Bool) (w : W) (c : Bytes) : Prop :=
  (EncFree' w.view ∧ w.view = c) ∨
  ∃ l0 mid d l, w.view = l0 ++ renderC mid ++ encw d ++ l ∧ c = l0 ++ semM mid ++ d ++ l ∧ EncFree' l0 ∧
    (l0 = [] ∨ endsWs l0) ∧ (∀ q ∈ mid, MidOK q) ∧ d ≠ [] ∧ d.length ≤ 45 ∧ EncFree' l ∧ (l = [] ∨ startsWs l) ∧
    (l = [] → NoEnd32 d) ∧ (strict = true → allWs l = false)

-- Below, the conjuncts of the chain case are `h1` … `h11`: `h1` the view, `h2` the content, `h3` `h4` on `l0`, `h5` on `mid`,
-- `h6` `h7` on `d`, `h8` `h9` on `l`, `h10` (`d` does not end with a space if nothing follows), `h11` `strict`.

theorem sem_weaken {b : Bool} {w : W} {c : Bytes} (h : Sem b w c) : Sem false w c := by
  obtain h | ⟨l0, mid, d, l, h1, h2, h3, h4, h5, h6, h7, h8, h9, h10, -⟩ := h
  · exact .inl h
  · exact .inr ⟨l0, mid, d, l, h1, h2, h3, h4, h5, h6, h7, h8, h9, h10, nofun⟩

theorem sem_decode {b : Bool} {w : W} {c : Bytes} (h : Sem b w c) : decToks (tokens w.view [] false) false = c := by
  rcases h with ⟨h1, rfl⟩ | ⟨l0, mid, d, l, h1, rfl, h3, h4, h5, h6, h7, h8, h9, _, _⟩
  · exact decode_lit _ _ (encFree_of _ h1)
  · rw [h1]
    exact decode_snoc l0 mid d l h3 h4 h5 h6 h7 h8 h9

theorem e32_endsWs (x : Bytes) (h : E32 x) : x = [] ∨ endsWs x :=
  h.imp id fun ⟨r, e⟩ => ⟨r, 32, e, rfl⟩

theorem snoc_of_append {α : Type} {a b r : List α} {x : α} (hb : b ≠ []) (h : a ++ b = r ++ [x]) : ∃ r', b = r' ++ [x] := by
  rw [← List.dropLast_concat_getLast hb, ← List.append_assoc] at h
  exact ⟨b.dropLast, (List.cons.inj (List.append_inj' h rfl).2).1 ▸ (List.dropLast_concat_getLast hb).symm⟩

/-- in the chain case, text that ends with a space ends inside the literal text after the last encoded-word -/
theorem last_lit_of_e32 (pre d l : Bytes) (hd : d ≠ []) (hne : l = [] → NoEnd32 d) (h : E32 (pre ++ d ++ l)) :
    l ≠ [] ∧ endsWs l := by
  obtain ⟨r, hr⟩ := h.resolve_left fun e => hd (List.append_eq_nil_iff.mp (List.append_eq_nil_iff.mp e).1).2
  have hl : l ≠ [] := fun e => by
    subst e
    obtain ⟨r', e'⟩ := snoc_of_append hd ((List.append_nil _).symm.trans hr)
    exact hne rfl r' e'
  obtain ⟨r', e'⟩ := snoc_of_append hl hr
  exact ⟨hl, r', 32, e', rfl⟩

theorem sem_lit {b : Bool} {w w' : W} {c : Bytes} (x : Bytes) (h : Sem b w c) (hc : E32 c) (hx : EncFree' x)
    (hv : w'.view = w.view ++ x) (b' : Bool) (hb' : b' = true → b = true ∨ allWs x = false) : Sem b' w' (c ++ x) := by
  rcases h with ⟨h1, rfl⟩ | ⟨l0, mid, d, l, h1, rfl, h3, h4, h5, h6, h7, h8, h9, h10, h11⟩
  · exact .inl ⟨hv ▸ encFree'_append _ _ h1 hx (e32_endsWs _ hc), hv⟩
  · obtain ⟨hl, hle⟩ := last_lit_of_e32 (l0 ++ semM mid) d l h6 h10 hc
    refine .inr ⟨l0, mid, d, l ++ x, by rw [hv, h1, List.append_assoc], (List.append_assoc _ _ _), h3, h4, h5, h6, h7,
      encFree'_append _ _ h8 hx (.inr hle), .inr (startsWs_append _ _ (h9.resolve_left hl)),
      fun e => absurd (List.append_eq_nil_iff.mp e).1 hl,
      fun hb => by rw [allWs, List.all_append, Bool.and_eq_false_iff]; exact (hb' hb).imp h11 id⟩

theorem sem_closed {w : W} {c : Bytes} (h : Sem true w c) (hc : E32 c) :
    ∃ l0 mid, w.view = l0 ++ renderC mid ∧ c = l0 ++ semM mid ∧ EncFree' l0 ∧ (l0 = [] ∨ endsWs l0) ∧
      ∀ q ∈ mid, MidOK q := by
  obtain ⟨h1, rfl⟩ | ⟨l0, mid, d, l, h1, rfl, h3, h4, h5, h6, h7, h8, h9, h10, h11⟩ := h
  · exact ⟨w.view, [], (List.append_nil _).symm, (List.append_nil _).symm, h1, e32_endsWs _ hc, nofun⟩
  · obtain ⟨hl0, hle⟩ := last_lit_of_e32 (l0 ++ semM mid) d l h6 h10 hc
    refine ⟨l0, mid ++ [(d, l)], ?_, ?_, h3, h4,
      List.forall_mem_append.mpr ⟨h5, List.forall_mem_singleton.mpr ⟨h6, h7, h8, h9.resolve_left hl0, hle⟩⟩⟩
    · rw [h1, renderC_append, renderC, renderC, List.append_nil]
      simp only [List.append_assoc]
    · rw [semM_append, semM, semM, if_neg (by rw [h11 rfl]; decide), List.append_nil]
      simp only [List.append_assoc]

theorem sem_run {w w' : W} {c : Bytes} (ds : List Bytes) (n : Nat) (h : Sem true w c) (hc : E32 c) (hne : ds ≠ [])
    (hgood : ∀ d ∈ ds, d ≠ [] ∧ d.length ≤ 45) (hlast : NoEnd32 ds.flatten)
    (hv : w'.view = w.view ++ run1 ds ++ List.replicate n 32) : Sem false w' (c ++ ds.flatten ++ List.replicate n 32) := by
  obtain ⟨mid', dl, hr, hmid', hd, hd45, hsem⟩ := run1_split ds hne hgood
  obtain ⟨l0, mid, h1, rfl, h3, h4, h5⟩ := sem_closed h hc
  have hsp : List.replicate n (32 : Byte) = [] ∨ startsWs (List.replicate n 32) := by
    cases n with
    | zero => exact .inl rfl
    | succ k => exact .inr ⟨32, _, List.replicate_succ, rfl⟩
  refine .inr ⟨l0, mid ++ mid', dl, List.replicate n 32, ?_, ?_, h3, h4, List.forall_mem_append.mpr ⟨h5, hmid'⟩, hd, hd45,
    encFree'_spaces n, hsp, fun _ r e => hlast (semM mid' ++ r) (by rw [← hsem, e, List.append_assoc]), nofun⟩
  · rw [hv, h1, hr, renderC_append]
    simp only [List.append_assoc]
  · rw [← hsem, semM_append]
    simp only [List.append_assoc]

theorem trimEnd_noEnd32 (s : Bytes) : NoEnd32 (trimEnd s) := by
  intro r e
  have h := List.head?_dropWhile_not (· == 32) s.reverse
  rw [← List.reverse_reverse (s.reverse.dropWhile _), List.head?_reverse, ← trimEnd, e, List.getLast?_concat] at h
  exact absurd h (by decide)

theorem sem_flush {w : W} {c : Bytes} (buf : Bytes) (hi : Inv w) (h : Sem true w c) (hc : buf ≠ [] → E32 c)
    (hu : ContRunsLe3 buf) : Sem buf.isEmpty (flushBuf w buf) (c ++ buf) := by
  by_cases hb : buf = []
  · subst hb
    rw [List.append_nil]
    exact h
  rw [show buf.isEmpty = false by simpa using hb]
  obtain ⟨ds, hds, hgood, _, hv⟩ := flushBuf_view (w := w) hi buf hu
  have hsplit := trimEnd_split buf
  by_cases hd0 : ds = []
  · -- nothing but spaces
    subst hd0
    rw [← hds, List.flatten_nil, List.nil_append] at hsplit
    rw [run1, List.append_nil, ← hds, List.flatten_nil, hsplit] at hv
    exact sem_lit buf h (hc hb) (hsplit ▸ encFree'_spaces _) hv false nofun
  · have := sem_run ds _ h (hc hb) hd0 hgood (hds ▸ trimEnd_noEnd32 buf) hv
    rwa [hds, List.append_assoc, hsplit] at this

/-! ## the loop over the words of the value -/

/-- every word but the last ends with a space -/
def WordsOK : List Bytes → Prop
  | [] => True
  | [_] => True
  | x :: y :: r => (∃ r', x = r' ++ [32]) ∧ WordsOK (y :: r)

theorem wordsOK_cons_iff (x : Bytes) (rest : List Bytes) :
    WordsOK (x :: rest) ↔ (rest ≠ [] → ∃ r', x = r' ++ [32]) ∧ WordsOK rest := by
  cases rest with
  | nil => exact ⟨fun _ => ⟨fun h => absurd rfl h, trivial⟩, fun _ => trivial⟩
  | cons y r => exact ⟨fun h => ⟨fun _ => h.1, h.2⟩, fun h => ⟨h.1 (List.cons_ne_nil _ _), h.2⟩⟩

theorem splitInclusive_ok (s acc : Bytes) : WordsOK (splitInclusive acc s) := by
  induction s generalizing acc with
  | nil => rw [splitInclusive]; split <;> trivial
  | cons c cs ih =>
    rw [splitInclusive]
    split
    · rename_i hc
      obtain rfl : c = 32 := beq_iff_eq.mp hc
      exact (wordsOK_cons_iff _ _).mpr ⟨fun _ => ⟨acc.reverse, List.reverse_cons⟩, ih []⟩
    · exact ih (c :: acc)

theorem sem_hv : ∀ (ws : List Bytes) (w : W) (buf c : Bytes), HeaderEnc.Inv w → Sem true w c →
    ContRunsLe3 (buf ++ ws.flatten) → ((ws ≠ [] ∨ buf ≠ []) → E32 c) → (ws ≠ [] → E32 (c ++ buf)) → WordsOK ws →
    Sem false (hvWords opts w buf ws) (c ++ buf ++ ws.flatten) := by
  intro ws
  induction ws with
  | nil =>
    intro w buf c hi h hu h1 _ _
    rw [hvWords, List.flatten_nil, List.append_nil]
    exact sem_weaken (sem_flush buf hi h (fun hb => h1 (.inr hb)) (by rwa [List.flatten_nil, List.append_nil] at hu))
  | cons word ws ih =>
    intro w buf c hi h hu h1 h2 hok
    obtain ⟨hword, hok⟩ := (wordsOK_cons_iff word ws).mp hok
    have hc : E32 c := h1 (.inl (List.cons_ne_nil _ _))
    have hwend : ws ≠ [] → E32 (c ++ buf ++ word) := fun hne =>
      (hword hne).elim fun r e => .inr ⟨c ++ buf ++ r, e ▸ (List.append_assoc _ _ _).symm⟩
    rw [List.flatten_cons, ← List.append_assoc] at hu ⊢
    rw [hvWords]
    split
    · -- a printable word: what is buffered is flushed, the word is folded
      rename_i hcond
      simp only [opts, Bool.and_eq_true, Bool.not_eq_true', Bool.true_and, Bool.and_eq_false_iff, Bool.not_eq_false'] at hcond
      obtain ⟨⟨hall, hmark⟩, hjoin⟩ := hcond
      have hplain := allowed_plain word hall
      have hbufu : ContRunsLe3 buf := contRuns_prefix _ _ (contRuns_prefix _ _ hu)
      have hi1 := inv_flushBuf hi buf hbufu
      -- `hjoin` (the `joins` rule): nothing was buffered or the word is not blank
      have hs2 : Sem true (foldWrite (flushBuf w buf) word) (c ++ buf ++ word) :=
        sem_lit word (sem_flush buf hi h (fun _ => hc) hbufu) (h2 (List.cons_ne_nil _ _)) (encFree'_word word hmark)
          (view_foldWrite hi1 word hplain) true fun _ => hjoin
      have := ih _ [] (c ++ buf ++ word) (inv_foldWrite hi1 word hplain) hs2
        (by have := contRuns_drop _ (buf ++ word).length hu; rwa [List.drop_left] at this)
        (fun hne => hwend (hne.resolve_right fun h => h rfl)) (fun hne => by rw [List.append_nil]; exact hwend hne) hok
      rwa [List.append_nil] at this
    · have := ih w (buf ++ word) c hi h hu (fun _ => hc) (fun hne => by rw [← List.append_assoc]; exact hwend hne) hok
      rwa [← List.append_assoc] at this

/-- `C12.unstructured_roundtrip` -/
theorem decode_encodeValue (nameLen : Nat) (value : Bytes) (hu : ContRunsLe3 value) :
    Rfc2047Dec.decode (encodeValue opts nameLen value) = value := by
  have h0 : Sem true (⟨[], nameLen + 2, 0, false⟩ : W) [] := .inl ⟨encFree'_nil, rfl⟩
  have := sem_hv (splitInclusive [] value) _ [] [] (.start _) h0 (by rwa [splitInclusive_flatten])
    (fun _ => .inl rfl) (fun _ => .inl rfl) (splitInclusive_ok value [])
  rw [splitInclusive_flatten] at this
  rw [encodeValue, Rfc2047Dec.decode, out_flush]
  exact sem_decode this

end LV.C12Proof
