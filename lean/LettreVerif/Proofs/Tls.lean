import LettreVerif.Model.Tls
import LettreVerif.Proofs.Client
/-!
# Connection set-up with TLS: what is written in clear, and when a session is inside TLS (C06)

`starttls` is characterised once (`starttls_spec`: what it adds to the connection in clear, as a `Wrote` or a `Closed`; a TLS
session exists only after a handshake that succeeded, and it is `ehlo` on a fresh connection); `establish` and `sendOnce`
are then read mode by mode.  Only the empty buffer of the TLS session depends on the buffer check `bc`: a lemma takes it
as a variable where it holds for either value and is stated for `true` (the repaired client, `Tls.bufCheck`) otherwise, as
the theorems of C06 are.
-/
namespace LV.Tls
open LV LV.Client

/-- the units allowed in clear under `required` -/
def ClearOk (hello : Bytes) (us : List Bytes) : Prop :=
  ∀ u ∈ us, u = ehloLine hello ∨ u = starttlsLine ∨ u = quitLine

theorem clearOk_of_subset (hello : Bytes) (us : List Bytes)
    (h : ∀ u ∈ us, u ∈ [ehloLine hello, starttlsLine, quitLine]) : ClearOk hello us := by
  intro u hu
  have := h u hu
  simpa using this

theorem starttls_spec (bc : Bool) (cfg : Cfg) (c : Conn) (ts : List Step) (hs : c.shut = false) :
    (∃ c' us, (starttls bc cfg c ts).1.clear = some c' ∧ us ⊆ [starttlsLine] ∧ (Wrote c c' us 0 ∨ Closed c c' us 2)) ∧
    ((starttls bc cfg c ts).2 = .ok () →
      ∃ t b i, (starttls bc cfg c ts).1.tls = some t ∧ t = ((Conn.fresh ts b i).ehlo cfg.hello).1 ∧
        (bc = true → b = [])) ∧
    ((starttls bc cfg c ts).1.tls.isSome = true → cfg.hs = true) := by
  generalize hst : starttls bc cfg c ts = out
  unfold starttls at hst
  by_cases hsup : (!c.supports (·.startTls)) = true
  · rw [if_pos hsup] at hst; subst hst
    exact ⟨⟨c, [], rfl, List.nil_subset _, .inl (.refl c)⟩, nofun, nofun⟩
  rw [if_neg hsup] at hst
  rcases guarded_command c starttlsLine hs with ⟨_, _, ht, hw⟩ | ⟨e, ht, hc⟩ <;> rw [ht] at hst <;> simp only at hst
  · by_cases hb : (bc && !(c.command starttlsLine).1.buf.isEmpty) = true
    · rw [if_pos hb] at hst; subst hst
      exact ⟨⟨_, _, rfl, List.Subset.refl _, .inr (hw.abort.mono (by decide))⟩, nofun, nofun⟩
    rw [if_neg hb] at hst
    by_cases hh : (!cfg.hs) = true
    · rw [if_pos hh] at hst; subst hst
      exact ⟨⟨_, _, rfl, List.Subset.refl _, .inl hw⟩, nofun, nofun⟩
    rw [if_neg hh] at hst
    have hh : cfg.hs = true := by simpa using hh
    generalize he : Conn.ehlo _ cfg.hello = te at hst
    obtain ⟨t, res⟩ := te
    cases res <;> subst hst
    · exact ⟨⟨_, _, rfl, List.Subset.refl _, .inl hw⟩, nofun, fun _ => hh⟩
    · exact ⟨⟨_, _, rfl, List.Subset.refl _, .inl hw⟩,
        fun _ => ⟨t, _, _, rfl, by rw [he], fun hbc => by simpa [hbc] using hb⟩, fun _ => hh⟩
  · subst hst
    exact ⟨⟨_, _, rfl, List.Subset.refl _, .inr hc⟩, nofun, nofun⟩

theorem establish_clear (bc : Bool) (cfg : Cfg) (cs ts : List Step) :
    ∀ c', (establish bc cfg cs ts).1.clear = some c' → ClearOk cfg.hello c'.sent := by
  have hsent := connect_sent cs cfg.hello
  have hopen := connect_ok_open cs cfg.hello
  have kept : ∀ u ∈ (connect cs cfg.hello).1.sent, u = ehloLine cfg.hello ∨ u = starttlsLine ∨ u = quitLine :=
    fun u hu => (hsent u hu).elim .inl (.inr ∘ .inr)
  have upgraded (h : (connect cs cfg.hello).2 = .ok ()) : ∀ c',
      (starttls bc cfg (connect cs cfg.hello).1 ts).1.clear = some c' → ClearOk cfg.hello c'.sent := by
    obtain ⟨c', us, hcl, hus, hw⟩ := (starttls_spec bc cfg _ ts (hopen h)).1
    intro c'' e u hu
    cases hcl.symm.trans e
    have new (hu : u ∈ us) : u = ehloLine cfg.hello ∨ u = starttlsLine ∨ u = quitLine :=
      .inr (.inl (List.mem_singleton.mp (hus hu)))
    rcases hw with hw | hw
    · exact (hw.mem_sent hu).elim new (kept u)
    · exact (hw.mem_sent hu).elim (.inr ∘ .inr) (·.elim new (kept u))
  unfold establish
  cases cfg.mode <;> simp only
  case wrapper => cases connect ts cfg.hello; split <;> exact fun _ e => nomatch e
  all_goals
    cases hc : connect cs cfg.hello with | mk c r
    rw [hc] at kept upgraded
    cases r <;> simp only
  -- the goals left are named after the three splits: mode, the pair `connect` returned, its result
  case required.mk.ok => exact upgraded rfl
  case opportunistic.mk.ok =>
    split
    · exact upgraded rfl
    · exact fun _ e => Option.some.inj e ▸ kept
  -- in every other case the connection in clear is the one `connect` returned
  all_goals exact fun _ e => Option.some.inj e ▸ kept

theorem establish_required (cfg : Cfg) (cs ts : List Step) (hm : cfg.mode = .required) :
    ((establish true cfg cs ts).2 = .ok () →
      cfg.hs = true ∧ ∃ t i, (establish true cfg cs ts).1.tls = some t ∧
        t = ((Conn.fresh ts [] i).ehlo cfg.hello).1) ∧
    ((establish true cfg cs ts).1.tls.isSome = true → cfg.hs = true) := by
  have hd := deliver_wrote (Conn.fresh cs [] none)
  unfold establish
  simp only [hm]
  rw [connect_eq]
  rcases greet_spec _ cfg.hello hd.shut with ⟨c', e, h1, _⟩ | ⟨c', i, h1, hw⟩ | ⟨c', e, h1, _⟩ <;> rw [h1] <;> simp only
  · exact ⟨nofun, nofun⟩
  · obtain ⟨_, h2, h3⟩ := starttls_spec true cfg { c' with info := some i } ts (hw.shut.trans hd.shut)
    refine ⟨fun h => ?_, h3⟩
    obtain ⟨t, b, i, ht, he, hb⟩ := h2 h
    exact ⟨h3 (by rw [ht]; rfl), t, i, ht, hb rfl ▸ he⟩
  · exact ⟨nofun, nofun⟩

theorem withSession_tls (o : Out) (c : Conn) (h : o.tls.isSome = true) :
    (o.withSession c).clear = o.clear ∧ (o.withSession c).tls.isSome = true := by
  unfold Out.withSession
  cases ht : o.tls with
  | none => rw [ht] at h; cases h
  | some t => exact ⟨rfl, rfl⟩

theorem sendOnce_required_clear (cfg : Cfg) (cs ts : List Step) (f : Option Bytes) (to : List Bytes) (msg : Bytes)
    (hm : cfg.mode = .required) :
    (sendOnce true cfg cs ts f to msg).1.clear = (establish true cfg cs ts).1.clear ∧
    (∀ r, (sendOnce true cfg cs ts f to msg).2 = .ok r →
      cfg.hs = true ∧ (sendOnce true cfg cs ts f to msg).1.tls.isSome = true) := by
  have he := establish_required cfg cs ts hm
  unfold sendOnce
  cases hest : establish true cfg cs ts with
  | mk o r =>
    rw [hest] at he
    cases r with
    | error e => exact ⟨rfl, nofun⟩
    | ok u =>
      obtain ⟨hhs, t, i, ht, _⟩ := he.1 rfl
      have hsome : o.tls.isSome = true := by simp only at ht; rw [ht]; rfl
      have hsess : o.session = some t := by
        simp only at ht
        simp [Out.session, ht]
      simp only [hsess]
      split
      · exact ⟨(withSession_tls o _ hsome).1, nofun⟩
      · exact ⟨(withSession_tls o _ hsome).1, fun r _ => ⟨hhs, (withSession_tls o _ hsome).2⟩⟩

end LV.Tls
